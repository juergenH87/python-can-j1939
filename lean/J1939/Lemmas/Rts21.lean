/-
  J1939-21 connection mode (RTS/CTS) from end to end: originator passes, responder windows, the answers, rounds.
  Helper lemmas; the property statements are in Props/C01.lean.
-/
import J1939.Lemmas.Trace21
import J1939.Lemmas.Wire21
import J1939.Lemmas.Arith
import J1939.Lemmas.Pass21
import J1939.Lemmas.Bam21
namespace J1939.Dll21
open J1939 J1939.Gen J1939.Lemmas

/-- the whole window in one pass (no minimum interval configured) -/
theorem sendWindow_all (cfg : Cfg) (now : Nat) (hiv : cfg.cmdtInterval = none) (fuel : Nat) (b : Snd) (o : List Out) (wn : Nat)
    (hw : b.waitOn = some (wn : Int)) (hle : b.next ≤ wn) (hwn : wn < b.numPackages) (hfuel : wn - b.next < fuel) :
    sendWindow cfg now fuel b o =
      ({ b with next := wn + 1, state := S_WAITING_CTS, deadline := now + Const.T21.T3 },
       o ++ dtFrames b b.next (wn + 1 - b.next), none) := by
  obtain ⟨n, r, e, -, hwin⟩ := sendWindow_win cfg now fuel b o wn hw (.inr ⟨by omega, by omega, by omega⟩)
  rw [e]
  -- the loop can only have stopped at the wait-on packet
  cases hwin with
  | wait h => rw [show n = wn + 1 by omega]
  | paced iv hiv' => rw [hiv] at hiv'; cases hiv'
  | done h hw' => omega

/-- one packet per pass (a minimum interval is configured) -/
theorem sendWindow_one (cfg : Cfg) (now iv : Nat) (hiv : cfg.cmdtInterval = some iv) (fuel : Nat) (b : Snd) (o : List Out) (wn : Nat)
    (hw : b.waitOn = some (wn : Int)) (hle : b.next ≤ wn) (hwn : wn < b.numPackages) :
    sendWindow cfg now (fuel + 1) b o =
      (if b.next = wn then { b with next := b.next + 1, state := S_WAITING_CTS, deadline := now + Const.T21.T3 }
       else { b with next := b.next + 1, deadline := now + iv },
       o ++ [.tx (Tp21.dt b.src b.dest (chunk b.data b.next))], none) := by
  obtain ⟨pgn, prio, ms, np, data, st, dl, src, dst, nx, wo⟩ := b
  simp only at hw hle hwn
  subst hw
  rw [sendWindow, if_pos (by show nx < np; omega)]
  by_cases heq : nx = wn <;> simp only [beq_iff_eq, Int.natCast_inj, heq, if_true, if_false, hiv]

/-- ORIGINATOR, one due pass in SENDING_IN_CTS with the wait-on packet `wn` still ahead: the TP.DT frames of packets
    next … j'−1 go out (at least one, never beyond `wn`), nothing raises; when `wn` went out the record waits for the
    CTS with T3, otherwise only `next` and the deadline (now + configured interval) changed -/
theorem tickSndOne_sending (cfg : Cfg) (now : Nat) (b : Snd) (wn : Nat) (hs : b.state = S_SENDING_IN_CTS)
    (hw : b.waitOn = some (wn : Int)) (hle : b.next ≤ wn) (hwn : wn < b.numPackages) (hd0 : b.deadline ≠ 0) (hdt : b.deadline ≤ now) :
    ∃ j', b.next < j' ∧ j' ≤ wn + 1 ∧ (tickSndOne cfg now b).2.1 = dtFrames b b.next (j' - b.next) ∧
      (tickSndOne cfg now b).2.2.1 = none ∧
      ((j' = wn + 1 ∧ (tickSndOne cfg now b).1 = some { b with next := j', state := S_WAITING_CTS, deadline := now + Const.T21.T3 }) ∨
       (j' ≤ wn ∧ ∃ iv, cfg.cmdtInterval = some iv ∧ (tickSndOne cfg now b).1 = some { b with next := j', deadline := now + iv })) := by
  rw [tickSndOne_in_cts cfg now hs hd0 hdt]
  cases hiv : cfg.cmdtInterval with
  | none =>
    rw [sendWindow_all cfg now hiv _ b [] wn hw hle hwn (by omega)]
    exact ⟨wn + 1, by omega, by omega, rfl, rfl, .inl ⟨rfl, rfl⟩⟩
  | some iv =>
    rw [sendWindow_one cfg now iv hiv _ b [] wn hw hle hwn]
    refine ⟨b.next + 1, by omega, by omega, by rw [Nat.add_sub_cancel_left]; rfl, rfl, ?_⟩
    by_cases heq : b.next = wn
    · exact .inl ⟨by omega, by simp [heq]⟩
    · exact .inr ⟨by omega, iv, rfl, by simp [heq, hs, show ¬ b.numPackages ≤ b.next + 1 by omega]⟩

/-- the receive record holds the first `j` packets of `data`; its window ends with sequence number `W` (in J1939-21
    `nextPacket` — Python's 'next_packet' — is the sequence number that ENDS the window: the CTS is due when it arrives) -/
structure RInv (data : List Nat) (pgn j W mr : Nat) (r : Rcv) : Prop where
  hdata : r.data = payloads data j
  hsize : r.messageSize = data.length
  hnum  : r.numPackages = Tp21.num_packets data.length
  hnext : r.nextPacket = W
  hmr   : r.maxRec = some mr
  hpgn  : r.pgn = pgn

/-- the responder after packet `j' − 1` of a window that ends with packet `W − 1`, `o` being what it has put out since
    some earlier packet of the window and `s'` its state: inside the window nothing was sent; at the end of a window
    that does not end the message exactly one CTS, for the packets after the window, never more than the agreed limit
    nor than what is left; at the end of the message the EndOfMsgACK and ONE delivery, the record removed -/
def Fed (data : List Nat) (pgn W mr : Nat) (mid : MessageId) (dest j' : Nat) (o : List Out) (s' : St) : Prop :=
  if j' < W then
    txFrames o = [] ∧ deliveries o = [] ∧
    ∃ r', s'.rcv.get? (Tp21.buffer_hash mid.source_address dest) = some r' ∧ RInv data pgn j' W mr r'
  else if W < Tp21.num_packets data.length then
    txFrames o = [Tp21.cts dest mid.source_address (min mr (Tp21.num_packets data.length - W)) (W + 1) pgn] ∧
    deliveries o = [] ∧
    ∃ r', s'.rcv.get? (Tp21.buffer_hash mid.source_address dest) = some r' ∧
      RInv data pgn W (min (W + mr) (Tp21.num_packets data.length)) mr r'
  else
    txFrames o = [Tp21.eom_ack dest mid.source_address data.length (Tp21.num_packets data.length) pgn] ∧
    deliveries o = [(mid.priority, pgn, mid.source_address, dest, data)] ∧
    s'.rcv.get? (Tp21.buffer_hash mid.source_address dest) = none

theorem Fed.of_quiet {data : List Nat} {pgn W mr : Nat} {mid : MessageId} {dest j' : Nat} {o₁ o₂ : List Out} {s' : St}
    (h1 : txFrames o₁ = []) (h2 : deliveries o₁ = []) (h : Fed data pgn W mr mid dest j' o₂ s') :
    Fed data pgn W mr mid dest j' (o₁ ++ o₂) s' := by
  unfold Fed at h ⊢
  rwa [txFrames_append, deliveries_append, h1, h2, List.nil_append, List.nil_append]

theorem fed_one (data : List Nat) (pgn W mr : Nat) (mid : MessageId) (dest : Nat) (hlen : 0 < data.length)
    (hd : dest ≠ Const.Addr.GLOBAL) (hW : W ≤ Tp21.num_packets data.length) (t j : Nat) (hj : j < W) (s : St) (r : Rcv)
    (hr : s.rcv.get? (Tp21.buffer_hash mid.source_address dest) = some r) (hi : RInv data pgn j W mr r) :
    Fed data pgn W mr mid dest (j + 1) (processDt s t mid dest (chunk data j)).outs (processDt s t mid dest (chunk data j)).st := by
  have hnext := payloads_chunk hi.hdata
  unfold Fed
  by_cases hend : j + 1 = Tp21.num_packets data.length
  · rw [if_neg (by omega), if_neg (by omega), dt_last hr hi.hdata hi.hsize hend, if_neg hd, hi.hnum, hi.hpgn]
    exact ⟨rfl, rfl, PyDict.get?_erase_self _ _⟩
  · have hc := short_of_size hlen hi.hdata hi.hsize (by omega)
    by_cases hin : j + 1 < W
    · rw [if_pos hin, dt_mid (chunk_length data j) hr hc (.inr (by rw [chunk_head, hi.hnext]; exact hin))]
      exact ⟨rfl, rfl, _, PyDict.get?_set_self _ _ _, { hi with hdata := hnext }⟩
    · rw [if_neg hin, if_pos (by omega), dt_window_end (chunk_length data j) hr hd hi.hmr hc
        (by rw [chunk_head, hi.hnext]; omega), hi.hnum, hi.hnext, hi.hpgn]
      exact ⟨rfl, rfl, _, PyDict.get?_set_self _ _ _,
        { hi with hdata := by rw [hnext, show W = j + 1 by omega], hnum := rfl, hnext := rfl, hpgn := rfl }⟩

theorem fed_window (data : List Nat) (pgn W mr : Nat) (mid : MessageId) (dest : Nat) (hlen : 0 < data.length)
    (hd : dest ≠ Const.Addr.GLOBAL) (hW : W ≤ Tp21.num_packets data.length) (t j j' : Nat) (hj : j < j') (hj' : j' ≤ W)
    (s : St) (r : Rcv) (hr : s.rcv.get? (Tp21.buffer_hash mid.source_address dest) = some r) (hi : RInv data pgn j W mr r) :
    let q := feedDt s mid dest ((List.range' j (j' - j)).map (fun p => (t, chunk data p)))
    Fed data pgn W mr mid dest j' q.2 q.1 := by
  obtain ⟨k, rfl⟩ : ∃ k, j' = j + (k + 1) := ⟨j' - j - 1, by omega⟩
  rw [Nat.add_sub_cancel_left]
  clear hj
  induction k generalizing j s r with
  | zero =>
    simpa only [Nat.zero_add, List.range'_one, List.map_cons, List.map_nil, feedDt, List.append_nil]
      using fed_one data pgn W mr mid dest hlen hd hW t j (by omega) s r hr hi
  | succ k ih =>
    have h1 := fed_one data pgn W mr mid dest hlen hd hW t j (by omega) s r hr hi
    rw [Fed, if_pos (by omega)] at h1
    obtain ⟨a1, a2, r', hr', hi'⟩ := h1
    have := ih (j + 1) _ r' hr' hi' (by omega)
    rw [show j + 1 + (k + 1) = j + (k + 1 + 1) by omega] at this
    rw [List.range'_succ]
    simp only [List.map_cons, feedDt]
    exact Fed.of_quiet a1 a2 this

/-- ORIGINATOR, a CTS of the responder for the packets it expects next: the record goes to SENDING_IN_CTS, due at once,
    and will wait again after the last granted packet -/
theorem cts_accepted (cfg : Cfg) (s : St) (now : Nat) (mid : MessageId) (dest : Nat) (b : Snd) (g pgn : Nat)
    (hb : s.snd.get? (Tp21.buffer_hash dest mid.source_address) = some b)
    (hg : 0 < g) (hfit : b.next + g ≤ b.numPackages) :
    processCm cfg s now mid dest (Tp21.cts mid.source_address dest g (b.next + 1) pgn).data =
      { st := { s with snd := s.snd.set (Tp21.buffer_hash dest mid.source_address)
                                ({ b with waitOn := some (((b.next + g - 1 : Nat) : Int)), state := S_SENDING_IN_CTS, deadline := now }) },
        outs := [.wake] } := by
  rw [cts_data]
  exact processCm_cts (data := Ref.tpCts g (b.next + 1) pgn) (Nat.le_refl 8) rfl hb rfl
    (by show ((b.next + 1 : Nat) : Int) - ((1 : Nat) : Int) = b.next; omega) hg hfit

theorem ack_accepted (cfg : Cfg) (s : St) (now : Nat) (mid : MessageId) (dest : Nat) (b : Snd) (size n pgn : Nat)
    (hb : s.snd.get? (Tp21.buffer_hash dest mid.source_address) = some b) (hp : pgn < 16777216) :
    processCm cfg s now mid dest (Tp21.eom_ack mid.source_address dest size n pgn).data =
      { st := { s with snd := s.snd.set (Tp21.buffer_hash dest mid.source_address)
                                ({ b with state := S_FINISHED, deadline := now }) },
        outs := [.notify mid.priority pgn mid.source_address dest (Tp21.eom_ack mid.source_address dest size n pgn).data, .wake] } := by
  have h5 : Tp21.cm_pgn (Ref.tpEomAck size n pgn) = pgn := cm_pgn_ref 19 _ _ n 255 pgn hp
  rw [eom_ack_data, processCm_eom_ack (data := Ref.tpEomAck size n pgn) (Nat.le_refl 8) rfl hb, h5]

/-- RESPONDER, the RTS of the originator on a free pair: a receive record for the announced size and one CTS for
    packet 1 granting min(own maximum, announced limit, packets) -/
theorem rts_accepted (cfg : Cfg) (s : St) (now : Nat) (mid : MessageId) (dest : Nat) (prio pgn size n mx : Nat)
    (hs : size < 65536) (hn : n < 256) (hm : mx < 256) (hp : pgn < 16777216)
    (hfree : s.rcv.contains (Tp21.buffer_hash mid.source_address dest) = false) :
    processCm cfg s now mid dest (Tp21.rts mid.source_address dest prio pgn size n mx).data =
      { st := { s with rcv := s.rcv.set (Tp21.buffer_hash mid.source_address dest)
                                ({ pgn := pgn, messageSize := size, numPackages := n, nextPacket := min cfg.maxCmdt (min mx n),
                                   maxCmdt := cfg.maxCmdt, maxRec := some (min cfg.maxCmdt (min mx n)), data := [],
                                   deadline := now + Const.T21.T2, src := mid.source_address, dest := dest }) },
        outs := [.tx (Tp21.cts dest mid.source_address (min cfg.maxCmdt (min mx n)) 1 pgn), .wake] } := by
  have h2 : Tp21.rts_size (Ref.tpRts size n mx pgn) = size := cm_size_ref 16 size _ hs
  have h5 : Tp21.cm_pgn (Ref.tpRts size n mx pgn) = pgn := cm_pgn_ref 16 _ _ n mx pgn hp
  rw [rts_data, processCm_rts (data := Ref.tpRts size n mx pgn) (Nat.le_refl 8) rfl hfree, h2, h5]
  rfl

/-- the originator handles every frame the responder answered with (they are TP.CM frames), at time `t` -/
def answer (cfg : Cfg) (t : Nat) (mid : MessageId) (dest : Nat) : St → List Frame → St × List Out
  | s, [] => (s, [])
  | s, f :: fs =>
    let r := processCm cfg s t mid dest f.data
    let q := answer cfg t mid dest r.st fs
    (q.1, r.outs ++ q.2)

theorem answer_one (cfg : Cfg) (t : Nat) (mid : MessageId) (dest : Nat) (s : St) (f : Frame) :
    answer cfg t mid dest s [f] = ((processCm cfg s t mid dest f.data).st, (processCm cfg s t mid dest f.data).outs) := by
  simp only [answer, List.append_nil]

/-- one ROUND of the session originator → responder (`midO`/`midR`: the identifiers their frames arrive with): the
    originator's background pass serves the send record at `x.1`; the responder handles the TP.DT frames of that pass, in
    order, at `x.2.1`; the originator handles the responder's answers at `x.2.2`.  None: the originator has no record.
    Result: both states, the responder's outputs, the originator's outputs while handling the answers -/
def round (cfgO : Cfg) (midO midR : MessageId) (x : Nat × Nat × Nat) (sO sR : St) : Option (St × St × List Out × List Out) :=
  match sO.snd.get? (Tp21.buffer_hash midO.source_address midR.source_address) with
  | none => none
  | some b =>
    let p := tickSndOne cfgO x.1 b
    let sO1 : St := match p.1 with
      | some b' => { sO with snd := sO.snd.set (Tp21.buffer_hash midO.source_address midR.source_address) b' }
      | none => { sO with snd := sO.snd.erase (Tp21.buffer_hash midO.source_address midR.source_address) }
    let q := feedDt sR midO midR.source_address ((txFrames p.2.1).map (fun f => (x.2.1, f.data)))
    let a := answer cfgO x.2.2 midR midO.source_address sO1 (txFrames q.2)
    some (a.1, q.1, q.2, a.2)

/-- rounds until the list ends or the originator's record is gone -/
def run (cfgO : Cfg) (midO midR : MessageId) : List (Nat × Nat × Nat) → St → St → St × St × List Out × List Out
  | [], sO, sR => (sO, sR, [], [])
  | x :: xs, sO, sR =>
    match round cfgO midO midR x sO sR with
    | none => (sO, sR, [], [])
    | some (sO', sR', oR, oO) =>
      let q := run cfgO midO midR xs sO' sR'
      (q.1, q.2.1, oR ++ q.2.2.1, oO ++ q.2.2.2)

/-- every round's pass finds the record due: not before the deadline `d`, and the next one not before the answers of
    this round were handled nor before the configured minimum packet interval has passed -/
def Sched (cfg : Cfg) : Nat → List (Nat × Nat × Nat) → Prop
  | _, [] => True
  | d, x :: xs => d ≤ x.1 ∧ 0 < x.1 ∧ 0 < x.2.2 ∧ Sched cfg (max x.2.2 (x.1 + cfg.cmdtInterval.getD 0)) xs

theorem Sched_mono (cfg : Cfg) (d d' : Nat) (xs : List (Nat × Nat × Nat)) (h : Sched cfg d xs) (hd : d' ≤ d) : Sched cfg d' xs := by
  cases xs with
  | nil => trivial
  | cons x xs => exact ⟨Nat.le_trans hd h.1, h.2⟩

/-- the originator's record between rounds: packets 0 … j−1 are out, it may send up to packet `wn` -/
structure OInv (data : List Nat) (j wn : Nat) (b : Snd) : Prop where
  hdata  : b.data = data
  hnum   : b.numPackages = Tp21.num_packets data.length
  hnext  : b.next = j
  hstate : b.state = S_SENDING_IN_CTS
  hwait  : b.waitOn = some ((wn : Nat) : Int)
  hdl    : b.deadline ≠ 0

/-- `x`: the times of the originator's pass, of the responder's handling of its frames, and of the originator's handling of
    the answers; left disjunct: the session goes on with more packets transferred, right: the transfer is complete -/
theorem round_step (cfgO : Cfg) (midO midR : MessageId) (data : List Nat) (pgn mr : Nat) (hlen : 0 < data.length)
    (hp : pgn < 16777216) (hd : midR.source_address ≠ Const.Addr.GLOBAL) (hmr : 0 < mr)
    (x : Nat × Nat × Nat) (sO sR : St) (j wn : Nat) (b : Snd) (r : Rcv)
    (hj : j ≤ wn) (hwn : wn < Tp21.num_packets data.length)
    (hb : sO.snd.get? (Tp21.buffer_hash midO.source_address midR.source_address) = some b)
    (hr : sR.rcv.get? (Tp21.buffer_hash midO.source_address midR.source_address) = some r)
    (ob : OInv data j wn b) (rb : RInv data pgn j (wn + 1) mr r)
    (hdue : b.deadline ≤ x.1) (ht : 0 < x.1) (htO : 0 < x.2.2) :
    ∃ sO' sR' oR oO, round cfgO midO midR x sO sR = some (sO', sR', oR, oO) ∧
      ((∃ j' wn' b' r', j < j' ∧ j' ≤ wn' ∧ wn' < Tp21.num_packets data.length ∧
          sO'.snd.get? (Tp21.buffer_hash midO.source_address midR.source_address) = some b' ∧
          sR'.rcv.get? (Tp21.buffer_hash midO.source_address midR.source_address) = some r' ∧
          OInv data j' wn' b' ∧ RInv data pgn j' (wn' + 1) mr r' ∧
          b'.deadline ≤ max x.2.2 (x.1 + cfgO.cmdtInterval.getD 0) ∧ deliveries oR = [] ∧ deliveries oO = []) ∨
       (deliveries oR = [(midO.priority, pgn, midO.source_address, midR.source_address, data)] ∧
        sR'.rcv.get? (Tp21.buffer_hash midO.source_address midR.source_address) = none ∧
        deliveries oO = [(midR.priority, pgn, midR.source_address, midO.source_address,
          (Tp21.eom_ack midR.source_address midO.source_address data.length (Tp21.num_packets data.length) pgn).data)] ∧
        ∃ bf, sO'.snd.get? (Tp21.buffer_hash midO.source_address midR.source_address) = some bf ∧
          bf.state = S_FINISHED ∧ bf.deadline = x.2.2)) := by
  obtain ⟨j', hj1, hj2, hout, -, hcase⟩ := tickSndOne_sending cfgO x.1 b wn ob.hstate ob.hwait (ob.hnext ▸ hj) (ob.hnum ▸ hwn) ob.hdl hdue
  rw [ob.hnext] at hj1 hout
  -- the frames of the pass as the responder sees them, and what it makes of them
  have hfeed : (txFrames (tickSndOne cfgO x.1 b).2.1).map (fun f => (x.2.1, f.data)) =
      (List.range' j (j' - j)).map (fun p => (x.2.1, chunk data p)) := by
    rw [hout, dtFrames, txFrames_map, List.map_map, ob.hdata]; rfl
  have hf := fed_window data pgn (wn + 1) mr midO midR.source_address hlen hd hwn x.2.1 j j' hj1 hj2 sR r hr rb
  simp only [round, hb, hfeed]
  generalize feedDt sR midO midR.source_address _ = q at hf ⊢
  rw [Fed] at hf
  refine ⟨_, _, _, _, rfl, ?_⟩
  rcases hcase with ⟨rfl, hp1⟩ | ⟨hjl, iv, hiv, hp1⟩
  · -- the window was completed
    simp only [hp1]
    let bW : Snd := { b with next := wn + 1, state := S_WAITING_CTS, deadline := x.1 + Const.T21.T3 }
    let sW : St := { sO with snd := sO.snd.set (Tp21.buffer_hash midO.source_address midR.source_address) bW }
    rw [if_neg (Nat.lt_irrefl _)] at hf
    by_cases hend : wn + 1 < Tp21.num_packets data.length
    · -- … and the message is not: the CTS for the next window is accepted
      obtain ⟨f1, f2, r', f3, f4⟩ := (if_pos hend).mp hf
      obtain ⟨hg0, hgn, hgw⟩ := grant_spec hmr hend
      generalize min mr (Tp21.num_packets data.length - (wn + 1)) = g at f1 hg0 hgn hgw
      rw [hgw, Nat.add_right_comm] at f4
      rw [f1, answer_one, cts_accepted cfgO sW x.2.2 midR midO.source_address bW g pgn (PyDict.get?_set_self _ _ _) hg0 (ob.hnum ▸ hgn)]
      refine .inl ⟨wn + 1, wn + g, _, r', by omega, by omega, by omega, PyDict.get?_set_self _ _ _, f3,
        { ob with hnext := rfl, hstate := rfl, hwait := ?_, hdl := Nat.ne_of_gt htO }, f4, Nat.le_max_left _ _, f2, rfl⟩
      show some ((wn + 1 + g - 1 : Nat) : Int) = _
      rw [Nat.add_right_comm, Nat.add_sub_cancel]
    · -- … and so is the message: the EndOfMsgACK is accepted
      obtain ⟨f1, f2, f3⟩ := (if_neg hend).mp hf
      rw [f1, answer_one, ack_accepted cfgO sW x.2.2 midR midO.source_address bW data.length (Tp21.num_packets data.length) pgn
        (PyDict.get?_set_self _ _ _) hp]
      exact .inr ⟨f2, f3, rfl, _, PyDict.get?_set_self _ _ _, rfl, rfl⟩
  · -- one packet of the window (a minimum packet interval is configured)
    obtain ⟨f1, f2, r', f3, f4⟩ := (if_pos (by omega)).mp hf
    simp only [hp1, f1, answer]
    exact .inl ⟨j', wn, _, r', hj1, hjl, hwn, PyDict.get?_set_self _ _ _, f3,
      { ob with hnext := rfl, hdl := by show x.1 + iv ≠ 0; omega }, f4,
      by rw [hiv]; exact Nat.le_max_right _ _, f2, rfl⟩

theorem run_gone (cfgO : Cfg) (midO midR : MessageId) (xs : List (Nat × Nat × Nat)) (sO sR : St)
    (h : sO.snd.get? (Tp21.buffer_hash midO.source_address midR.source_address) = none) :
    run cfgO midO midR xs sO sR = (sO, sR, [], []) := by
  cases xs with
  | nil => rfl
  | cons x xs => simp only [run, round, h]

theorem round_finished (cfgO : Cfg) (midO midR : MessageId) (x : Nat × Nat × Nat) (sO sR : St) (b : Snd)
    (hb : sO.snd.get? (Tp21.buffer_hash midO.source_address midR.source_address) = some b)
    (hs : b.state = S_FINISHED) (hd0 : b.deadline ≠ 0) (hdue : b.deadline ≤ x.1) :
    round cfgO midO midR x sO sR =
      some ({ sO with snd := sO.snd.erase (Tp21.buffer_hash midO.source_address midR.source_address) }, sR, [], []) := by
  have ht := tickSndOne_finished cfgO x.1 hs hd0 hdue
  simp only [round, hb, ht]
  rfl

/-- THE SESSION RUNS TO COMPLETION: from any state of the invariant, any schedule of due rounds that is long enough
    delivers the message exactly once, reports exactly one acknowledgement, and leaves no record on either side -/
theorem run_delivers (cfgO : Cfg) (midO midR : MessageId) (data : List Nat) (pgn mr : Nat) (hlen : 0 < data.length)
    (hmax : data.length ≤ 1785) (hp : pgn < 16777216) (hd : midR.source_address ≠ Const.Addr.GLOBAL) (hmr : 0 < mr)
    (m : Nat) : ∀ (xs : List (Nat × Nat × Nat)) (sO sR : St) (j wn d : Nat) (b : Snd) (r : Rcv),
    Tp21.num_packets data.length - j ≤ m → j ≤ wn → wn < Tp21.num_packets data.length →
    sO.snd.get? (Tp21.buffer_hash midO.source_address midR.source_address) = some b →
    sR.rcv.get? (Tp21.buffer_hash midO.source_address midR.source_address) = some r →
    OInv data j wn b → RInv data pgn j (wn + 1) mr r → b.deadline ≤ d → Sched cfgO d xs → m + 1 ≤ xs.length →
    deliveries (run cfgO midO midR xs sO sR).2.2.1 = [(midO.priority, pgn, midO.source_address, midR.source_address, data)] ∧
    (run cfgO midO midR xs sO sR).2.1.rcv.get? (Tp21.buffer_hash midO.source_address midR.source_address) = none ∧
    deliveries (run cfgO midO midR xs sO sR).2.2.2 = [(midR.priority, pgn, midR.source_address, midO.source_address,
      (Tp21.eom_ack midR.source_address midO.source_address data.length (Tp21.num_packets data.length) pgn).data)] ∧
    (run cfgO midO midR xs sO sR).1.snd.get? (Tp21.buffer_hash midO.source_address midR.source_address) = none := by
  induction m with
  | zero => intro xs sO sR j wn d b r h1 h2 h3; omega
  | succ m ih =>
    intro xs sO sR j wn d b r hm hj hwn hb hr ob rb hdl hsched hxs
    obtain ⟨x, xs, rfl⟩ := List.exists_cons_of_length_pos (show 0 < xs.length by omega)
    rw [List.length_cons, Nat.add_le_add_iff_right] at hxs
    obtain ⟨s1, s2, s3, s4⟩ := hsched
    obtain ⟨sO', sR', oR, oO, hround, hcase⟩ := round_step cfgO midO midR data pgn mr hlen hp hd hmr x sO sR j wn b r hj hwn hb hr ob rb
      (Nat.le_trans hdl s1) s2 s3
    simp only [run, hround]
    rcases hcase with ⟨j', wn', b', r', hjj', hj', hwn', hb', hr', ob', rb', hdl', quietR, quietO⟩ | ⟨dR, goneR, dO, bf, hbf, hst, hdlf⟩
    · -- more packets transferred, nothing delivered: the rest of the schedule does it
      rw [deliveries_append, deliveries_append, quietR, quietO]
      exact ih xs sO' sR' j' wn' _ b' r' (by omega) hj' hwn' hb' hr' ob' rb' hdl' s4 hxs
    · -- delivered and acknowledged: the record is FINISHED and due at `x.2.2 > 0`; the next round (not before `x.2.2`, by `s4`)
      -- deletes it, and from then on `run` does nothing
      obtain ⟨x', xs', rfl⟩ := List.exists_cons_of_length_pos (show 0 < xs.length by omega)
      have hd0 : bf.deadline ≠ 0 := by omega
      have hdue : bf.deadline ≤ x'.1 := by have := s4.1; omega
      have hfin := round_finished cfgO midO midR x' sO' sR' bf hbf hst hd0 hdue
      simp only [run, hfin]
      rw [run_gone cfgO midO midR xs' _ sR' (PyDict.get?_erase_self _ _)]
      simp only [List.append_nil]
      exact ⟨dR, goneR, dO, PyDict.get?_erase_self _ _⟩

/-- the identifiers of the frames the builders produce are those `c01_tp_dispatch` speaks of -/
theorem tp_builder_ids (sa da prio pgn size n mx nxt reason : Nat) (d : List Nat) :
    (Tp21.rts sa da prio pgn size n mx).id = MessageId.can_id (MessageId.ofFields prio (PGN.value (PGN.ofFields 0 236 da)) sa) ∧
    (Tp21.cts sa da n nxt pgn).id = MessageId.can_id (MessageId.ofFields 7 (PGN.value (PGN.ofFields 0 236 da)) sa) ∧
    (Tp21.eom_ack sa da size n pgn).id = MessageId.can_id (MessageId.ofFields 7 (PGN.value (PGN.ofFields 0 236 da)) sa) ∧
    (Tp21.abort sa da reason pgn).id = MessageId.can_id (MessageId.ofFields 7 (PGN.value (PGN.ofFields 0 236 da)) sa) ∧
    (Tp21.dt sa da d).id = MessageId.can_id (MessageId.ofFields 7 (PGN.value (PGN.ofFields 0 235 da)) sa) :=
  ⟨rfl, rfl, rfl, rfl, rfl⟩

end J1939.Dll21
