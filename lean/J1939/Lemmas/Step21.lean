/-
  The handlers of the J1939-21 model on a given form of input: one due pass of `async_job_thread` over a send record in a
  given state, `_process_tp_cm` on a frame with a given control byte (in terms of the fields the receive path extracts
  from it, so for the frames of ANY conforming peer), `_process_tp_dt` on a frame of a running session.
-/
import J1939.Model.Dll21
import J1939.Lemmas.Const21
namespace J1939.Dll21
open J1939 J1939.Gen

theorem tickSndOne_early (cfg : Cfg) (t : Nat) {b : Snd} (hd0 : b.deadline ≠ 0) (h : t < b.deadline) :
    tickSndOne cfg t b = (some b, [], none, some b.deadline) := by
  rw [tickSndOne, if_pos (bne_iff_ne.2 hd0), if_pos h]

theorem tickSndOne_waiting (cfg : Cfg) (t : Nat) {b : Snd} (hs : b.state = S_WAITING_CTS) (hd0 : b.deadline ≠ 0) (hdt : b.deadline ≤ t) :
    tickSndOne cfg t b = (none, [.tx (Tp21.abort b.src b.dest Const.Abort21.TIMEOUT b.pgn)], none, none) := by
  rw [tickSndOne, if_pos (bne_iff_ne.2 hd0), if_neg (Nat.not_lt.2 hdt), hs]
  rfl

theorem tickRcvOne_due (t : Nat) {r : Rcv} (hd0 : r.deadline ≠ 0) (hdt : r.deadline ≤ t) :
    tickRcvOne t r =
      (none, if r.dest != Const.Addr.GLOBAL then [.tx (Tp21.abort r.dest r.src Const.Abort21.TIMEOUT r.pgn)] else [], none) := by
  rw [tickRcvOne, if_pos (bne_iff_ne.2 hd0), if_neg (Nat.not_lt.2 hdt)]

theorem tickSndOne_bm (cfg : Cfg) (t : Nat) {b : Snd} (hs : b.state = S_SENDING_BM) (hd0 : b.deadline ≠ 0) (hdt : b.deadline ≤ t) :
    tickSndOne cfg t b =
      if b.next + 1 < b.numPackages then
        (some { b with next := b.next + 1, deadline := t + cfg.bamInterval }, [.tx (Tp21.dt b.src b.dest (chunk b.data b.next))], none,
          some (t + cfg.bamInterval))
      else (none, [.tx (Tp21.dt b.src b.dest (chunk b.data b.next))], none, none) := by
  simp [tickSndOne, hs, hd0, Nat.not_lt.2 hdt]

theorem tickSndOne_in_cts (cfg : Cfg) (t : Nat) {b : Snd} (hs : b.state = S_SENDING_IN_CTS) (hd0 : b.deadline ≠ 0) (hdt : b.deadline ≤ t) :
    tickSndOne cfg t b =
      let r := sendWindow cfg t (b.numPackages - b.next + 1) b []
      let b1 := if r.2.2.isNone && r.1.state == S_SENDING_IN_CTS && r.1.next ≥ r.1.numPackages
                then { r.1 with state := S_WAITING_CTS, deadline := t + Const.T21.T3 } else r.1
      (some b1, r.2.1, r.2.2, if r.2.2.isNone then some b1.deadline else none) := by
  simp [tickSndOne, hs, hd0, Nat.not_lt.2 hdt]

theorem tickSndOne_finished (cfg : Cfg) (t : Nat) {b : Snd} (hs : b.state = S_FINISHED) (hd0 : b.deadline ≠ 0) (hdt : b.deadline ≤ t) :
    tickSndOne cfg t b = (none, [], none, none) := by
  simp [tickSndOne, hs, hd0, Nat.not_lt.2 hdt]

variable {cfg : Cfg} {s : St} {now : Nat} {mid : MessageId} {dest : Nat}

theorem processCm_rts {data : List Nat} (hl : 8 ≤ data.length) (hc : Tp21.cm_control data = Const.CM21.RTS)
    (hfree : s.rcv.contains (Tp21.buffer_hash mid.source_address dest) = false) :
    processCm cfg s now mid dest data =
      { st := { s with rcv := s.rcv.set (Tp21.buffer_hash mid.source_address dest)
                                ({ pgn := Tp21.cm_pgn data, messageSize := Tp21.rts_size data, numPackages := Tp21.rts_packets data,
                                   nextPacket := min cfg.maxCmdt (min (Tp21.rts_max data) (Tp21.rts_packets data)),
                                   maxCmdt := cfg.maxCmdt,
                                   maxRec := some (min cfg.maxCmdt (min (Tp21.rts_max data) (Tp21.rts_packets data))), data := [],
                                   deadline := now + Const.T21.T2, src := mid.source_address, dest := dest }) },
        outs := [.tx (Tp21.cts dest mid.source_address (min cfg.maxCmdt (min (Tp21.rts_max data) (Tp21.rts_packets data))) 1
                        (Tp21.cm_pgn data)), .wake] } := by
  simp only [processCm, Nat.not_lt.2 hl, if_false, hc, beq_self_eq_true, if_true, hfree, Bool.false_eq_true]

theorem processCm_eom_ack {data : List Nat} {b : Snd} (hl : 8 ≤ data.length) (hc : Tp21.cm_control data = Const.CM21.EOM_ACK)
    (hb : s.snd.get? (Tp21.buffer_hash dest mid.source_address) = some b) :
    processCm cfg s now mid dest data =
      { st := { s with snd := s.snd.set (Tp21.buffer_hash dest mid.source_address) ({ b with state := S_FINISHED, deadline := now }) },
        outs := [.notify mid.priority (Tp21.cm_pgn data) mid.source_address dest data, .wake] } := by
  simp only [processCm, Nat.not_lt.2 hl, if_false, hc, beq_iff_eq, cm21_eom_ack_ne_rts, cm21_eom_ack_ne_cts, if_true, hb]

theorem processCm_cts {data : List Nat} {b : Snd} {g : Nat} (hl : 8 ≤ data.length) (hc : Tp21.cm_control data = Const.CM21.CTS)
    (hb : s.snd.get? (Tp21.buffer_hash dest mid.source_address) = some b)
    (hn : Tp21.cts_packets data = g) (hx : Tp21.cts_next data = b.next) (hg : 0 < g) (hfit : b.next + g ≤ b.numPackages) :
    processCm cfg s now mid dest data =
      { st := { s with snd := s.snd.set (Tp21.buffer_hash dest mid.source_address)
                                ({ b with waitOn := some (((b.next + g - 1 : Nat) : Int)), state := S_SENDING_IN_CTS, deadline := now }) },
        outs := [.wake] } := by
  have h1 : ¬ (b.next : Int) + g > b.numPackages := by omega
  have h2 : (b.next : Int) + g - 1 = ((b.next + g - 1 : Nat) : Int) := by omega
  simp only [processCm, Nat.not_lt.2 hl, if_false, hc, beq_iff_eq, cm21_cts_ne_rts, if_true, hb, hn, hx, Nat.ne_of_gt hg,
    Nat.not_lt.2 (Nat.le_trans (Nat.le_add_left g b.next) hfit), h1, h2]

theorem processCm_bam {data : List Nat} (hl : 8 ≤ data.length) (hc : Tp21.cm_control data = Const.CM21.BAM) :
    processCm cfg s now mid dest data =
      { st := { s with rcv := PyDict.set (if s.rcv.contains (Tp21.buffer_hash mid.source_address dest)
                                          then s.rcv.erase (Tp21.buffer_hash mid.source_address dest) else s.rcv)
                                (Tp21.buffer_hash mid.source_address dest)
                                ({ pgn := Tp21.cm_pgn data, messageSize := Tp21.bam_size data, numPackages := Tp21.bam_packets data,
                                   nextPacket := 1, maxCmdt := cfg.maxCmdt, maxRec := none, data := [],
                                   deadline := now + Const.T21.T1, src := mid.source_address, dest := dest }) },
        outs := (if s.rcv.contains (Tp21.buffer_hash mid.source_address dest) then [.wake] else []) ++ [.wake] } := by
  simp only [processCm, Nat.not_lt.2 hl, if_false, hc, beq_iff_eq, cm21_bam_ne_rts, cm21_bam_ne_cts, cm21_bam_ne_eom_ack, if_true]
  cases s.rcv.contains (Tp21.buffer_hash mid.source_address dest) <;> rfl

theorem dt_mid {f : List Nat} {r : Rcv} {n : Nat} (hf : f.length = n + 1)
    (hr : s.rcv.get? (Tp21.buffer_hash mid.source_address dest) = some r)
    (hc : r.data.length + n < r.messageSize) (hseq : dest = Const.Addr.GLOBAL ∨ Py.idx f 0 < r.nextPacket) :
    processDt s now mid dest f =
      { st := { s with rcv := s.rcv.set (Tp21.buffer_hash mid.source_address dest)
                                    ({ r with data := r.data ++ f.drop 1, deadline := now + Const.T21.T1 }) },
        outs := [.wake] } := by
  have hb : ¬ (dest ≠ 255 ∧ r.nextPacket ≤ Py.idx f 0) := by rw [addr_global] at hseq; omega
  simp [processDt, hr, hf, hb, Nat.not_le.2 hc]

theorem dt_window_end {f : List Nat} {r : Rcv} {mr n : Nat} (hf : f.length = n + 1)
    (hr : s.rcv.get? (Tp21.buffer_hash mid.source_address dest) = some r)
    (hd : dest ≠ Const.Addr.GLOBAL) (hmr : r.maxRec = some mr)
    (hc : r.data.length + n < r.messageSize) (hseq : r.nextPacket ≤ Py.idx f 0) :
    processDt s now mid dest f =
      { st := { s with rcv := s.rcv.set (Tp21.buffer_hash mid.source_address dest)
                                    ({ r with data := r.data ++ f.drop 1, nextPacket := min (r.nextPacket + mr) r.numPackages,
                                              deadline := now + Const.T21.T2 }) },
        outs := [.tx (Tp21.cts dest mid.source_address (min mr (r.numPackages - r.nextPacket)) (r.nextPacket + 1) r.pgn), .wake] } := by
  rw [addr_global] at hd
  simp [processDt, hr, hf, hd, hseq, hmr, Nat.not_le.2 hc]

theorem dt_complete {f : List Nat} {r : Rcv} {n : Nat} (hf : f.length = n + 1)
    (hr : s.rcv.get? (Tp21.buffer_hash mid.source_address dest) = some r)
    (hc : r.messageSize ≤ r.data.length + n) :
    processDt s now mid dest f =
      { st := { s with rcv := s.rcv.erase (Tp21.buffer_hash mid.source_address dest) },
        outs := (if dest = Const.Addr.GLOBAL then [] else [.tx (Tp21.eom_ack dest mid.source_address r.messageSize r.numPackages r.pgn)]) ++
                [.notify mid.priority r.pgn mid.source_address dest ((r.data ++ f.drop 1).take r.messageSize), .wake] } := by
  simp [processDt, hr, hf, hc]

theorem accept_guard (acc : Nat → Bool) (da : Nat) (h : da = 255 ∨ acc da = true) : (da != Const.Addr.GLOBAL && !acc da) = false := by
  rcases h with rfl | h
  · rfl
  · rw [h]; exact Bool.and_false _

end J1939.Dll21
