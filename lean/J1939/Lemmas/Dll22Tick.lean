/-
  The table invariant `WF` of the J1939-22 (FD) layer: what the background pass relies on in the session tables, the
  multi-PG buffers and the session pools; preserved by every received frame (`Rx.wf`; `send_pgn`: Props/C07.lean);
  sufficient for the loops of the pass never to raise (`tickRcv_ok`, `tickMpg_ok`, `tickSnd_ok`).
-/
import J1939.Lemmas.Rx22
import J1939.Lemmas.Pass22
import J1939.Lemmas.Arith
import J1939.Lemmas.Mpg22
import J1939.Lemmas.Send22
namespace J1939.Dll22
open J1939 J1939.Gen

def CfgPos (cfg : Cfg) : Prop := 0 < cfg.bamInterval ∧ ∀ iv, cfg.cmdtInterval = some iv → 0 < iv

/-- what the background pass relies on in a send record (8 and 4 are the reflected pool sizes, `c02_capacity`) -/
structure SndOk (b : Snd) : Prop where
  dl : b.deadline ≠ 0
  sess : b.session < 8
  bamSess : (b.state = S_SENDING_BAM ∨ b.state = S_SENDING_EOM_STATUS) → b.session < 4
  data1 : 1 ≤ b.data.length
  segs : b.numSegments ≤ b.data.length
  rts : b.state = S_SENDING_RTS_CTS → b.waitOn.isSome = true ∧ -1 ≤ b.next
  bam : b.state = S_SENDING_BAM → 0 ≤ b.next ∧ b.next < b.numSegments

def RcvOk (r : Rcv) : Prop := r.deadline ≠ 0

theorem pyIndex_some {α} (l : List α) (i : Int) (h1 : -1 ≤ i) (h2 : i < l.length) (h3 : 1 ≤ l.length) : (pyIndex l i).isSome = true := by
  unfold pyIndex
  by_cases h : 0 ≤ i
  · rw [if_pos h, List.getElem?_eq_getElem (by omega)]; rfl
  · rw [if_neg h, if_pos (by omega), List.getElem?_eq_getElem (by omega)]; rfl

theorem sndOk_next (b : Snd) (n : Int) (d : Nat) (h : SndOk b) (hd : d ≠ 0) (hr : b.state = S_SENDING_RTS_CTS → -1 ≤ n)
    (hb : b.state = S_SENDING_BAM → 0 ≤ n ∧ n < b.numSegments) : SndOk { b with next := n, deadline := d } :=
  ⟨hd, h.sess, h.bamSess, h.data1, h.segs, fun hs => ⟨(h.rts hs).1, hr hs⟩, hb⟩

/-- a record moved to a connection-mode state other than SENDING: nothing is asked of `next` and the wait-on segment -/
theorem sndOk_idle (b : Snd) (n : Int) (st d : Nat) (h : SndOk b) (hd : d ≠ 0) (hk : KRts st) (hs : st ≠ S_SENDING_RTS_CTS) :
    SndOk { b with next := n, state := st, deadline := d } :=
  have nb : ¬ KBam st := fun hb => kinds_disjoint st hb hk
  ⟨hd, h.sess, fun hh => absurd hh nb, h.data1, h.segs, fun hh => absurd hh hs, fun hh => absurd (.inl hh) nb⟩

theorem sndOk_cts (b : Snd) (nxt w : Int) (d : Nat) (h : SndOk b) (hd : d ≠ 0) (hn : -1 ≤ nxt) :
    SndOk { b with next := nxt, waitOn := some w, state := S_SENDING_RTS_CTS, deadline := d } :=
  have nb : ¬ KBam S_SENDING_RTS_CTS := fun hb => kinds_disjoint _ hb krts_sending
  ⟨hd, h.sess, fun hh => absurd hh nb, h.data1, h.segs, fun _ => ⟨rfl, hn⟩, fun hh => absurd (.inl hh) nb⟩

def RelOk : Release → Prop
  | .none => True
  | .rts i => i < 8
  | .bam i => i < 4

/-- what the send loop needs of one record's pass -/
structure SndStepOk (now : Nat) (r : Option Snd × List Out × Option PyErr × Option Nat × Release) : Prop where
  err : r.2.2.1 = none
  rec_ : ∀ b', r.1 = some b' → SndOk b' ∧ now < b'.deadline
  wake : ∀ d, r.2.2.2.1 = some d → now < d
  rel : RelOk r.2.2.2.2

theorem SndStepOk.gone {now : Nat} {o : List Out} {rel : Release} (h : RelOk rel) : SndStepOk now (none, o, none, none, rel) :=
  ⟨rfl, nofun, nofun, h⟩

theorem SndStepOk.stays {now : Nat} {b : Snd} {o : List Out} {w : Option Nat} (h : SndOk b) (hd : now < b.deadline)
    (hw : ∀ d, w = some d → d = b.deadline) : SndStepOk now (some b, o, none, w, .none) :=
  ⟨rfl, fun _ e => Option.some.inj e ▸ ⟨h, hd⟩, fun d e => hw d e ▸ hd, trivial⟩

theorem tickSndOne_ok (cfg : Cfg) (now : Nat) (hc : CfgPos cfg) (b : Snd) (hb : SndOk b) :
    SndStepOk now (tickSndOne cfg now b) := by
  have T3 : 0 < Const.T22.T3 := by decide
  have T5 : 0 < Const.T22.T5 := by decide
  have hbi := hc.1
  have h := tickSndOne_pass cfg now b
  generalize tickSndOne cfg now b = r at h ⊢
  cases h with
  | unarmed h => exact absurd h hb.dl
  | early h => exact .stays hb h (fun d e => by cases e; rfl)
  | timeout | over => exact .gone hb.sess
  | eoms hs => exact .gone (hb.bamSess (.inr hs))
  | unknown => exact .gone trivial
  | window hs n hn r e hwin hleft o w hw =>
    obtain ⟨hwo, hn0⟩ := hb.rts hs
    have hn1 : -1 ≤ n := Int.le_trans hn0 hn
    cases hwin with
    | eom => exact .stays (sndOk_idle b n _ _ hb (by omega) krts_waitack (by decide)) (by show now < now + _; omega) hw
    | wait => exact .stays (sndOk_idle b n _ _ hb (by omega) krts_waiting (by decide)) (by show now < now + _; omega) hw
    | paced iv hiv =>
      have := hc.2 iv hiv
      exact .stays (sndOk_next b n _ hb (by omega) (fun _ => hn1) (fun h => absurd (hs.symm.trans h) (by decide)))
        (by show now < now + _; omega) hw
    | done h => exact absurd (hleft rfl hs) (Int.not_lt.mpr h)
    | index h hp =>
      have := pyIndex_some b.data n hn1 (by have := hb.segs; omega) hb.data1
      rw [hp] at this; cases this
    | key hw' => rw [hw'] at hwo; cases hwo
  | bamIndex hs h =>
    obtain ⟨hn0, hn1⟩ := hb.bam hs
    have := pyIndex_some b.data b.next (by omega) (by have := hb.segs; omega) hb.data1
    rw [h] at this; cases this
  | bamSeg hs seg h hn =>
    exact .stays (sndOk_next b _ _ hb (by omega) (fun h => absurd (hs.symm.trans h) (by decide))
      (fun _ => ⟨by have := (hb.bam hs).1; omega, hn⟩)) (by show now < now + _; omega) (fun d e => by cases e; rfl)
  | bamLast hs seg h =>
    exact .stays { hb with dl := by show now + _ ≠ 0; omega
                           bamSess := fun _ => hb.bamSess (.inl hs)
                           rts := fun h => absurd h (show S_SENDING_EOM_STATUS ≠ S_SENDING_RTS_CTS by decide)
                           bam := fun h => absurd h (show S_SENDING_EOM_STATUS ≠ S_SENDING_BAM by decide) }
      (by show now < now + _; omega) (fun d e => by cases e; rfl)

/-- table invariant of the J1939-22 layer -/
structure WF (s : St) : Prop where
  rk : s.rcv.keys.Nodup
  sk : s.snd.keys.Nodup
  mkeys : s.mpg.keys.Nodup
  rcv : PyDict.All RcvOk s.rcv
  snd : PyDict.All SndOk s.snd
  mpg : PyDict.All J1939.Props.C11.BufOk s.mpg
  rp : s.rtsPool.length = 8
  bp : s.bamPool.length = 4

theorem wf_set_snd (s : St) (k : Nat) (b : Snd) (h : WF s) (hb : SndOk b) : WF { s with snd := s.snd.set k b } :=
  { h with sk := PyDict.keys_set_nodup _ _ _ h.sk, snd := PyDict.all_set _ _ _ _ h.snd hb }

theorem wf_set_rcv (s : St) (k : Nat) (r : Rcv) (h : WF s) (hr : RcvOk r) : WF { s with rcv := s.rcv.set k r } :=
  { h with rk := PyDict.keys_set_nodup _ _ _ h.rk, rcv := PyDict.all_set _ _ _ _ h.rcv hr }

theorem wf_erase_rcv (s : St) (k : Nat) (h : WF s) : WF { s with rcv := s.rcv.erase k } :=
  { h with rk := PyDict.keys_erase_nodup _ _ h.rk, rcv := PyDict.all_erase _ _ _ h.rcv }

/-- over ANY list of keys (keys that are gone are skipped, D19) -/
theorem tickRcv_ok (now : Nat) (ks : List Nat) (s : St) (nw : Nat) (o : List Out) (hwf : WF s) (hnw : now < nw) :
    ∃ s' nw' o', tickRcv now ks s nw o = (s', nw', o', none) ∧ WF s' ∧ now < nw' := by
  induction ks generalizing s nw o with
  | nil => exact ⟨s, nw, o, rfl, hwf, hnw⟩
  | cons k ks ih =>
    unfold tickRcv
    cases hg : s.rcv.get? k with
    | none => exact ih s nw o hwf hnw
    | some buf =>
      dsimp only
      -- the only wake-up a receive record asks for is its own deadline, and only while that is in the future
      have hfut : ∀ d, (tickRcvOne now buf).2.2 = some d → now < d := by
        intro d hd
        unfold tickRcvOne at hd
        have : (buf.deadline != 0) = true := by simpa [RcvOk] using hwf.rcv k buf hg
        simp only [this, if_true] at hd
        by_cases hf : buf.deadline > now
        · rw [if_pos hf] at hd; cases hd; exact hf
        · rw [if_neg hf] at hd; cases hd
      have hnw' := wake_min now nw (tickRcvOne now buf).2.2 hnw hfut
      cases (tickRcvOne now buf).1 with
      | some r' => exact ih s _ _ hwf hnw'
      | none => exact ih { s with rcv := s.rcv.erase k } _ _ (wf_erase_rcv s k hwf) hnw'

/-- over keys that are all present; no exception: every buffer fits a frame -/
theorem tickMpg_ok (now : Nat) (ks : List Nat) (s : St) (nw : Nat) (o : List Out) (hks : ks.Nodup)
    (hpres : ∀ k ∈ ks, (s.mpg.get? k).isSome = true) (hwf : WF s) (hnw : now < nw) :
    ∃ s' nw' o', tickMpg now ks s nw o = (s', nw', o', none) ∧ WF s' ∧ now < nw' ∧
      ∀ k, k ∉ ks → s'.mpg.get? k = s.mpg.get? k := by
  induction ks generalizing s nw o with
  | nil => exact ⟨s, nw, o, rfl, hwf, hnw, fun _ _ => rfl⟩
  | cons k ks ih =>
    obtain ⟨hkn, hks'⟩ := List.nodup_cons.mp hks
    obtain ⟨buf, hg⟩ := Option.isSome_iff_exists.mp (hpres k (List.mem_cons_self ..))
    by_cases hf : now < buf.deadline
    · rw [tickMpg_early now k ks s nw o buf hg hf]
      obtain ⟨s', nw', o', e, w, n, f⟩ := ih s (if nw > buf.deadline then buf.deadline else nw) o hks'
        (fun k' hk' => hpres k' (List.mem_cons_of_mem _ hk')) hwf (by split <;> omega)
      exact ⟨s', nw', o', e, w, n, fun k' hk' => f k' (fun h => hk' (List.mem_cons_of_mem _ h))⟩
    · -- due: a well-formed buffer (`BufOk`) packs into 64 bytes, so its frame exists and no IndexError is raised
      obtain ⟨hfill, hle64, _⟩ := hwf.mpg k buf hg
      have hpacked : Props.C11.packedSize buf.cpgs ≤ 64 := hfill ▸ hle64
      obtain ⟨f, hm⟩ := Option.isSome_iff_exists.mp (multiPgFrame_some (Tp22.buffer_unhash_mpg k).1 buf.cpgs
        (Tp22.buffer_unhash_mpg k).2.2.1 (Tp22.buffer_unhash_mpg k).2.2.2 hpacked)
      rw [tickMpg_due now k ks s nw o buf f hg (by omega) hm]
      obtain ⟨s', nw', o', e, w, n, fr⟩ := ih { s with mpg := s.mpg.erase k } nw (o ++ [.tx f]) hks'
        (fun k' hk' => (PyDict.get?_erase_ne s.mpg k k' (fun h => hkn (h ▸ hk'))).symm ▸ hpres k' (List.mem_cons_of_mem _ hk'))
        { hwf with mkeys := PyDict.keys_erase_nodup _ _ hwf.mkeys, mpg := PyDict.all_erase _ _ _ hwf.mpg }
        hnw
      refine ⟨s', nw', o', e, w, n, fun k' hk' => ?_⟩
      rw [fr k' (fun h => hk' (List.mem_cons_of_mem _ h))]
      exact PyDict.get?_erase_ne _ _ _ (fun h => hk' (h ▸ List.mem_cons_self ..))

theorem sndApply_wf (s : St) (k : Nat) (r1 : Option Snd) (hwf : WF s) (hr : ∀ b', r1 = some b' → SndOk b') :
    WF (sndApply s k r1) ∧ ∀ k', k' ≠ k → (sndApply s k r1).snd.get? k' = s.snd.get? k' := by
  cases r1 with
  | some b' => exact ⟨wf_set_snd s k b' hwf (hr b' rfl), fun k' hne => PyDict.get?_set_ne _ _ _ _ hne⟩
  | none =>
    exact ⟨{ hwf with sk := PyDict.keys_erase_nodup _ _ hwf.sk, snd := PyDict.all_erase _ _ _ hwf.snd },
      fun k' hne => PyDict.get?_erase_ne _ _ _ hne⟩

theorem release_wf (s1 : St) (rel : Release) (hwf : WF s1) (hrel : RelOk rel) :
    ∃ s2, release s1 rel = some s2 ∧ WF s2 ∧ s2.snd = s1.snd := by
  cases rel with
  | none => exact ⟨s1, rfl, hwf, rfl⟩
  | rts i =>
    exact ⟨{ s1 with rtsPool := s1.rtsPool.set i true }, by rw [release, poolPut_eq _ _ (hwf.rp ▸ hrel)]; rfl,
      { hwf with rp := List.length_set.trans hwf.rp }, rfl⟩
  | bam i =>
    exact ⟨{ s1 with bamPool := s1.bamPool.set i true }, by rw [release, poolPut_eq _ _ (hwf.bp ▸ hrel)]; rfl,
      { hwf with bp := List.length_set.trans hwf.bp }, rfl⟩

/-- over keys that are all present; no exception: no KeyError, no IndexError from chunk indexing or the session pools -/
theorem tickSnd_ok (cfg : Cfg) (now : Nat) (hc : CfgPos cfg) (ks : List Nat) (s : St) (nw : Nat) (o : List Out)
    (hks : ks.Nodup) (hpres : ∀ k ∈ ks, (s.snd.get? k).isSome = true) (hwf : WF s) (hnw : now < nw) :
    ∃ s' nw' o', tickSnd cfg now ks s nw o = (s', nw', o', none) ∧ WF s' ∧ now < nw' ∧
      ∀ k, k ∉ ks → s'.snd.get? k = s.snd.get? k := by
  induction ks generalizing s nw o with
  | nil => exact ⟨s, nw, o, rfl, hwf, hnw, fun _ _ => rfl⟩
  | cons k ks ih =>
    obtain ⟨hkn, hks'⟩ := List.nodup_cons.mp hks
    obtain ⟨buf, hg⟩ := Option.isSome_iff_exists.mp (hpres k (List.mem_cons_self ..))
    unfold tickSnd
    rw [hg]
    dsimp only
    obtain ⟨h0, h1, h2, h3⟩ := tickSndOne_ok cfg now hc buf (hwf.snd k buf hg)
    rw [h0]
    dsimp only
    obtain ⟨w1, oth⟩ := sndApply_wf s k (tickSndOne cfg now buf).1 hwf (fun b' hb' => (h1 b' hb').1)
    obtain ⟨s2, hs2, w2, hsnd2⟩ := release_wf _ _ w1 h3
    rw [hs2]
    dsimp only
    obtain ⟨s', nw', o', e, w, n, f⟩ := ih s2 _ (o ++ (tickSndOne cfg now buf).2.1) hks'
      (fun k' hk' => by rw [hsnd2, oth k' (fun h => hkn (h ▸ hk'))]; exact hpres k' (List.mem_cons_of_mem _ hk'))
      w2 (wake_min now nw (tickSndOne cfg now buf).2.2.2.1 hnw h2)
    refine ⟨s', nw', o', e, w, n, fun k' hk' => ?_⟩
    rw [f k' (fun h => hk' (List.mem_cons_of_mem _ h)), hsnd2, oth k' (fun h => hk' (h ▸ List.mem_cons_self ..))]

theorem SndRx.ok {now : Nat} {b b' : Snd} (h : SndRx now b b') (hnow : 0 < now) (hb : SndOk b) : SndOk b' := by
  have Th : 0 < Const.T22.Th := by decide
  cases h with
  | hold => exact sndOk_next b b.next _ hb (by omega) (fun hs => (hb.rts hs).2) hb.bam
  | cts nxt w hn => exact sndOk_cts b nxt w now hb (by omega) hn
  | ack => exact sndOk_idle b b.next _ now hb (by omega) krts_ackrcvd (by decide)
  | abort => exact sndOk_idle b b.next _ now hb (by omega) krts_finished (by decide)

theorem Rx.wf {now i src dest : Nat} {s t : St} (h : Rx now i src dest s t) (hnow : 0 < now) (hwf : WF s) : WF t := by
  cases h with
  | same => exact hwf
  | rcvSet r hr =>
    refine wf_set_rcv s _ r hwf ?_
    rcases hr with hr | ⟨r0, h0, e⟩
    · exact Nat.ne_of_gt (Nat.lt_of_le_of_lt (Nat.zero_le _) hr)
    · exact fun h => hwf.rcv _ r0 h0 (e ▸ h)
  | rcvErase => exact wf_erase_rcv s _ hwf
  | snd b b' _ hb h => exact wf_set_snd s _ b' hwf (h.ok hnow (hwf.snd _ b hb))

end J1939.Dll22
