/-
  Facts about the DM14 model that the properties C17–C19 share: the byte codecs of `Py`, the layout of the second byte
  of DM14 / DM15, what the handlers do with a PDU of another PGN, what the server's guard rejects and what its DM14
  handler does with a rejected and with a closing DM14, and how the client's blocking wait ends.  First `errorDm15`,
  the closed form of the server's 'operation failed' answer that C18 and C19 speak in.
-/
import J1939.Model.Dm14
import J1939.Lemmas.Bits
import J1939.Lemmas.Cond

namespace J1939.Props.C18
open J1939.Dm14

/-- the DM15 'operation failed' PDU the server builds for error code `e` and EDCP extension `edcp` -/
def errorDm15 (direct e edcp : Nat) : List Nat :=
  [0, (direct <<< 4) + (ST_OPER_FAILED <<< 1) + 1, e &&& 0xFF, (e >>> 8) &&& 0xFF, e >>> 16, edcp, 0xFF, 0xFF]

end J1939.Props.C18

namespace J1939.Dm14
open J1939 J1939.Gen J1939.Props.C18

theorem toBytesLE_length (n x : Nat) : (Py.toBytesLE n x).length = n := by
  induction n generalizing x with
  | zero => rfl
  | succ n ih => simp [Py.toBytesLE, ih]

theorem fromBytesLE_toBytesLE (n x : Nat) (h : x < 256 ^ n) : Py.fromBytesLE (Py.toBytesLE n x) = x := by
  induction n generalizing x with
  | zero => simp at h; simp [Py.toBytesLE, Py.fromBytesLE, h]
  | succ n ih =>
    simp only [Py.toBytesLE, Py.fromBytesLE]
    have : x / 256 < 256 ^ n := by
      rw [Nat.pow_succ] at h
      exact Nat.div_lt_of_lt_mul (by omega)
    rw [ih _ this]
    omega

/-! Byte 1 of DM14 and DM15 is `direct <<< 4 + c <<< 1 + 1` with a 3-bit command or status `c`; the decoders of
    `Gen.Codec` recover both fields from it, whatever the other bytes are. -/

theorem hdr_direct (direct c : Nat) (hc : c < 8) : (direct <<< 4 + c <<< 1 + 1) >>> 4 = direct := by
  simp only [Bits.shl_4, Bits.shl_1, Bits.shr_4]
  omega

theorem status_hdr (b direct c : Nat) (rest : List Nat) (hc : c < 8) :
    Dm14.q_dm15_status (b :: (direct <<< 4 + c <<< 1 + 1) :: rest) = c := by
  simp only [Dm14.q_dm15_status, Py.idx, List.getD_cons_succ, List.getD_cons_zero, Bits.and_7, Bits.shl_4, Bits.shl_1, Bits.shr_1]
  omega

theorem command_hdr (b direct c : Nat) (rest : List Nat) (hc : c < 8) :
    Dm14.s_command (b :: (direct <<< 4 + c <<< 1 + 1) :: rest) = c := by
  simp only [Dm14.s_command, Py.idx, List.getD_cons_succ, List.getD_cons_zero, Bits.and_15, Bits.shl_4, Bits.shl_1, Bits.shr_1]
  omega

theorem pointer_type_hdr (b direct c : Nat) (rest : List Nat) (hc : c < 8) :
    Dm14.s_pointer_type (b :: (direct <<< 4 + c <<< 1 + 1) :: rest) = direct % 2 := by
  simp only [Dm14.s_pointer_type, Py.idx, List.getD_cons_succ, List.getD_cons_zero, hdr_direct direct c hc, Bits.and_1]

/-- what `_parse_dm15` extracts from a DM15: status, seed (bytes 6 and 7) and byte 0 -/
structure Answer (status seed count : Nat) (d : List Nat) : Prop where
  len : 8 ≤ d.length
  status : Dm14.q_dm15_status d = status
  seed : Dm14.q_dm15_seed d = seed
  count : Py.idx d 0 = count

/-- bytes 6 and 7 of DM14 (user level or key) and of DM15 (seed) hold a value low byte first; the model's bytes are
    unbounded, so this needs no 16-bit range -/
theorem le16 (v : Nat) : (v >>> 8) <<< 8 + (v &&& 0xFF) = v := by
  simp only [Bits.shr_8, Bits.shl_8, Bits.and_255]
  omega

@[simp] theorem pgn_distinct :
    (PGN_DM14 = PGN_DM15) = False ∧ (PGN_DM14 = PGN_DM16) = False ∧ (PGN_DM15 = PGN_DM14) = False ∧
    (PGN_DM15 = PGN_DM16) = False ∧ (PGN_DM16 = PGN_DM14) = False ∧ (PGN_DM16 = PGN_DM15) = False := by decide

@[simp] theorem fListen_foreign (env : Env) (n : Node) (seedIn : Nat) (accept : Bool) (p : Pdu) (h : p.pgn ≠ PGN_DM14) :
    fListen env n seedIn accept p = { n := n } := by
  simp [fListen, h]

@[simp] theorem sParseDm14_foreign (n : Node) (seedIn : Nat) (p : Pdu) (h : p.pgn ≠ PGN_DM14) :
    sParseDm14 n seedIn p = { n := n } := by
  simp [sParseDm14, h]

@[simp] theorem sParseDm16_foreign (n : Node) (seedIn : Nat) (p : Pdu) (h : p.pgn ≠ PGN_DM16) :
    sParseDm16 n seedIn p = { n := n } := by
  simp [sParseDm16, h]

@[simp] theorem qParseDm15_foreign (env : Env) (n : Node) (p : Pdu) (h : p.pgn ≠ PGN_DM15) : qParseDm15 env n p = { n := n } := by
  simp [qParseDm15, h]

@[simp] theorem qParseDm16_foreign (n : Node) (p : Pdu) (h : p.pgn ≠ PGN_DM16) : qParseDm16 n p = { n := n } := by
  simp [qParseDm16, h]

theorem sRejects_iff (s : Server) (p : Pdu) :
    sRejects s p = true ↔
      (∃ a, s.sa = some a ∧ p.sa ≠ a) ∨ (∃ ad, s.address = some ad ∧ ad ≠ Py.slice p.data 2 (s.length - 2)) ∨ s.busy = true := by
  unfold sRejects
  rw [Bool.or_eq_true, Bool.or_eq_true, or_assoc]
  refine or_congr ?_ (or_congr ?_ Iff.rfl)
  · cases s.sa <;> simp
  · cases s.address <;> simp

theorem sRejects_false (s : Server) (p : Pdu) (hsa : ∀ a, s.sa = some a → p.sa = a)
    (had : ∀ ad, s.address = some ad → ad = Py.slice p.data 2 (s.length - 2)) (hb : s.busy = false) : sRejects s p = false := by
  refine Bool.eq_false_iff.mpr fun h => ?_
  rcases (sRejects_iff s p).mp h with ⟨a, ha, hne⟩ | ⟨ad, ha, hne⟩ | hb'
  · exact hne (hsa a ha)
  · exact hne (had ad ha)
  · exact Bool.false_ne_true (hb.symm.trans hb')

theorem error_roundtrip (direct e edcp : Nat) (he : e < 2 ^ 24) : Dm14.q_dm15_error (errorDm15 direct e edcp) = e := by
  simp only [Dm14.q_dm15_error, errorDm15, Py.slice, Py.fromBytesLE, List.take, List.drop, Bits.and_255, Bits.shr_8, Bits.shr_16]
  omega

theorem status_failed (direct e edcp : Nat) : Dm14.q_dm15_status (errorDm15 direct e edcp) = ST_OPER_FAILED :=
  status_hdr 0 direct ST_OPER_FAILED _ (by decide)

/-- `_send_dm15` in state 'send error' with the eight bytes of a DM15 -/
theorem sDm15_error (s : Server) (seedIn direct status count sa e edcp : Nat) :
    sDm15 s seedIn 8 direct status .sendError count (some sa) e edcp = (s, [.tx PGN_DM15 (sa &&& 0xFF) 6 (errorDm15 direct e edcp)], none) := rfl

/-- a rejected DM14 is answered 'operation failed' with the pending error code (2 if there is none) and changes nothing
    but the busy flag -/
theorem sParseDm14_rejects (n : Node) (seedIn : Nat) (p : Pdu) (hp : p.pgn = PGN_DM14) (hl : 8 ≤ p.data.length)
    (h8 : n.s.length = 8) (hrej : sRejects n.s p = true) :
    sParseDm14 n seedIn p =
      { n := { n with s := { n.s with busy := false } },
        outs := [.tx PGN_DM15 (p.sa &&& 0xFF) 6 (errorDm15 (Py.idx p.data 1 >>> 4) (if n.s.error != 0 then n.s.error else 2) 7)] } := by
  simp only [sParseDm14, hp, bne_self_eq_false, Bool.false_eq_true, if_false, Nat.not_lt.mpr hl, hrej, if_true, h8, sDm15_error]

/-- the closing DM14 of the running requester frees the server and takes its DM14 handler off the subscriber list -/
theorem sParseDm14_closes (n : Node) (seedIn : Nat) (p : Pdu) (hp : p.pgn = PGN_DM14) (hl : 8 ≤ p.data.length)
    (hrej : sRejects n.s p = false) (hst : n.s.state = .waitOperComplete) :
    sParseDm14 n seedIn p =
      { n := unsub { n with s := { n.s with length := p.data.length, direct := Py.idx p.data 1 >>> 4, state := .idle, sa := none,
                                            address := none } } .srv14 } := by
  simp only [sParseDm14, hp, bne_self_eq_false, Bool.false_eq_true, if_false, Nat.not_lt.mpr hl, hrej, hst]

/-- `m` is `n` with the client's transaction ended (`qEnd`, facade idle) and something taken off the two queues:
    what the node is however the client's wait ends -/
def Ended (n m : Node) : Prop :=
  ∃ dq xq, m = { qEnd { n with q := { n.q with dataQ := dq, excQ := xq } } with f := .idle }

theorem clientResume_fst (n : Node) (t : Bool) : Ended n (clientResume n t).1 := by
  unfold clientResume
  extract_lets isRead fin
  have done : ∀ dq xq r, Ended n (fin { n with q := { n.q with dataQ := dq, excQ := xq } } r).1 := fun dq xq r => ⟨dq, xq, rfl⟩
  -- a leaf `fin n r` is the instance with the queues as they are: `n` is `{ n with q := { n.q with dataQ := n.q.dataQ, … } }` by structure eta
  have same : ∀ r, Ended n (fin n r).1 := fun r => done n.q.dataQ n.q.excQ r
  cases t <;> cases n.q.dataQ
  case false.cons item rest =>
    -- an item arrived
    cases n.q.excQ with
    | cons e es => exact done ..
    | nil =>
      refine ite_ind ?_ (done ..)
      cases item with
      | none => exact done ..
      | some d => exact ite_ind (done ..) (done ..)
  all_goals
    -- the timeout passed, or the wait returned without an item
    refine ite_ind (same _) (ite_ind ?_ (same _))
    cases n.q.excQ with
    | nil => exact same _
    | cons e es => exact done ..

theorem clientResume_exc (n : Node) (item : Option (List Nat)) (rest : List (Option (List Nat))) (e : Exc) (es : List Exc)
    (hq : n.q.dataQ = item :: rest) (hx : n.q.excQ = e :: es) :
    clientResume n false = ({ qEnd { n with q := { n.q with dataQ := rest, excQ := es } } with f := .idle }, .raiseExc e) := by
  simp [clientResume, hq, hx]

theorem clientResume_read (n : Node) (d : List Nat) (rest : List (Option (List Nat))) (hq : n.q.dataQ = some d :: rest)
    (hx : n.q.excQ = []) (hr : n.q.isRead = true) :
    clientResume n false = ({ qEnd { n with q := { n.q with dataQ := rest } } with f := .idle },
      .values (if d.isEmpty then [] else if n.q.raw then d.map (fun (x : Nat) => (x : Int)) else bytesToValues n.q.objSize n.q.signed d)) := by
  simp only [clientResume, hq, hx, hr, if_true]
  split <;> rfl

theorem clientResume_write (n : Node) (item : Option (List Nat)) (rest : List (Option (List Nat))) (hq : n.q.dataQ = item :: rest)
    (hx : n.q.excQ = []) (hr : n.q.isRead = false) :
    clientResume n false = ({ qEnd { n with q := { n.q with dataQ := rest } } with f := .idle }, .none) := by
  simp [clientResume, hq, hx, hr]

end J1939.Dm14
