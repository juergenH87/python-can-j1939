/-
  A conditional taken apart as a term.  The handlers of the model are trees of `if`s over records; a walk through one
  names what holds of each branch, and `split` would try to decide every condition of the goal against the whole context.
  `P` and `g` are found by unification when the goal is a predicate applied to a projection of the conditional
  (`OnlyDm15 (if …).outs`); for the conditional itself give `g := id`, for an equation a wrapper that fixes `P`
  (`Rx.ite`, `C17.cfg_ite`).
-/
namespace J1939

/-- what holds of both branches holds of the conditional (`g` is what is taken of it, a projection say) -/
theorem ite_ind {α β : Sort _} {P : β → Prop} {g : α → β} {c : Prop} [Decidable c] {a b : α} (ha : P (g a)) (hb : P (g b)) :
    P (g (if c then a else b)) := by
  split
  · exact ha
  · exact hb

theorem ite_ind' {α β : Sort _} {P : β → Prop} {g : α → β} {c : Prop} [Decidable c] {a b : α} (ha : c → P (g a))
    (hb : ¬c → P (g b)) : P (g (if c then a else b)) := by
  split
  · exact ha ‹_›
  · exact hb ‹_›

end J1939
