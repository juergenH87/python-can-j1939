/-
  J1939-21 broadcast (BAM) from end to end, the terms of the statements in Props/C01.lean: the originator's passes over
  one record (`bamRun`, `Due`), the frames among its outputs (`txFrames`), a node receiving a list of frames (`rxAll`).
-/
import J1939.Model.Dll21
namespace J1939.Dll21
open J1939 J1939.Gen

/-- successive background passes over ONE broadcast record, at the given times; its outputs and the
    record left (none = deleted) -/
def bamRun (cfg : Cfg) : List Nat → Snd → List Out × Option Snd
  | [], b => ([], some b)
  | t :: ts, b =>
    let r := tickSndOne cfg t b
    match r.1 with
    | none => (r.2.1, none)
    | some b' => let q := bamRun cfg ts b'; (r.2.1 ++ q.1, q.2)

/-- every pass of the list finds the record due: the first at/after `d`, each next one at/after the previous pass plus
    the configured interval (the instant the previous pass asked to be woken at: `c09_bam_spacing`) -/
def Due (cfg : Cfg) : Nat → List Nat → Prop
  | _, [] => True
  | d, t :: ts => d ≠ 0 ∧ d ≤ t ∧ Due cfg (t + cfg.bamInterval) ts

/-- the frames among the outputs of the originator -/
def txFrames (o : List Out) : List Frame :=
  o.filterMap (fun x => match x with | .tx f => some f | _ => none)

theorem txFrames_append (a b : List Out) : txFrames (a ++ b) = txFrames a ++ txFrames b :=
  List.filterMap_append

theorem txFrames_tx_wake (f : Frame) : txFrames [.tx f, .wake] = [f] := rfl

theorem txFrames_map {α : Type} (l : List α) (g : α → Frame) : txFrames (l.map (fun k => Out.tx (g k))) = l.map g := by
  induction l with
  | nil => rfl
  | cons a l ih => exact congrArg (g a :: ·) ih

/-- a node receives the given frames, each at its own time -/
def rxAll (cfg : Cfg) (acc : Nat → Bool) (s : St) : List (Nat × Frame) → St × List Out
  | [] => (s, [])
  | (t, f) :: fs =>
    let r := notify cfg s t acc f.id f.data
    let q := rxAll cfg acc r.st fs
    (q.1, r.outs ++ q.2)

end J1939.Dll21
