/-
  Bit operations on `Nat` → arithmetic normal forms: what is left of a codec goal is linear (`omega`) or a pack/unpack
  round trip (Lemmas/Radix; div/mod goals on large literals are dear for `omega`).
  Generic statements carry a symbolic exponent; they are specialised per literal below, or made literal on the spot
  (`simp only [shr, Nat.reducePow]`) — never leave `2^k` with a big `k` for the elaborator to unify against a literal.
-/
namespace J1939.Bits

theorem and_mask (x k : Nat) : x &&& (2^k - 1) = x % 2^k := Nat.and_two_pow_sub_one_eq_mod x k

theorem shr (x k : Nat) : x >>> k = x / 2^k := Nat.shiftRight_eq_div_pow x k

theorem shl (x k : Nat) : x <<< k = x * 2^k := Nat.shiftLeft_eq x k

theorem mul_or (a b k : Nat) (h : b < 2^k) : a * 2^k ||| b = a * 2^k + b := by
  rw [← Nat.shiftLeft_eq]; exact (Nat.shiftLeft_add_eq_or_of_lt h a).symm

theorem shl_or_shl_or (a b c i j : Nat) (hb : b < 2^i) (hc : c < 2^j) :
    (a <<< (i + j)) ||| (b <<< j) ||| c = a * 2^(i+j) + b * 2^j + c := by
  rw [Nat.shiftLeft_add, ← Nat.shiftLeft_or_distrib, shl a i, mul_or a b i hb, shl, mul_or _ c j hc,
      Nat.pow_add, Nat.add_mul, Nat.mul_assoc]

theorem shl_or (a b i : Nat) (hb : b < 2^i) : (a <<< i) ||| b = a * 2^i + b := by
  rw [shl, mul_or a b i hb]

/-- the same with the low field written first, as little-endian assembly does -/
theorem or_shl (a b k : Nat) (h : a < 2^k) : a ||| b <<< k = a + b * 2^k := by
  rw [Nat.or_comm, shl_or b a k h, Nat.add_comm]

theorem or_right_comm (a b c : Nat) : a ||| b ||| c = a ||| c ||| b := by
  rw [Nat.or_assoc, Nat.or_comm b, ← Nat.or_assoc]

/-- three and four bytes assembled little-endian -/
theorem le24_or (a b c : Nat) (ha : a < 256) (hb : b < 256) : a ||| b <<< 8 ||| c <<< 16 = a + 256 * (b + 256 * c) := by
  rw [or_shl a b 8 ha, or_shl _ c 16 (by omega)]; omega

theorem le32_or (a b c d : Nat) (ha : a < 256) (hb : b < 256) (hc : c < 256) :
    a ||| b <<< 8 ||| c <<< 16 ||| d <<< 24 = a + 256 * (b + 256 * (c + 256 * d)) := by
  rw [le24_or a b c ha hb, or_shl _ d 24 (by omega)]; omega

theorem and_shl (x m k : Nat) : x &&& m <<< k = (x >>> k &&& m) <<< k := by
  apply Nat.eq_of_testBit_eq
  intro i
  rw [Nat.testBit_and, Nat.testBit_shiftLeft, Nat.testBit_shiftLeft, Nat.testBit_and, Nat.testBit_shiftRight]
  by_cases hi : k ≤ i
  · simp [hi]
  · simp [hi]

/-- clearing bit `k` of a number clears the lowest bit of its part above bit `k` -/
theorem clear_bit (lo hi k : Nat) (h : lo < 2^k) :
    lo + 2^k * hi - (lo + 2^k * hi) / 2^k % 2 * 2^k = lo + 2^k * (hi - hi % 2) := by
  rw [Nat.add_mul_div_left _ _ (Nat.two_pow_pos k), Nat.div_eq_of_lt h, Nat.zero_add, Nat.mul_comm (hi % 2), Nat.mul_sub,
    Nat.add_sub_assoc (Nat.mul_le_mul_left _ (Nat.mod_le _ _))]

/-- masks 2^k-1 as literals -/
theorem and_1 (x : Nat) : x &&& 1 = x % 2 := and_mask x 1
theorem and_3 (x : Nat) : x &&& 3 = x % 4 := and_mask x 2
theorem and_7 (x : Nat) : x &&& 7 = x % 8 := and_mask x 3
theorem and_15 (x : Nat) : x &&& 15 = x % 16 := and_mask x 4
theorem and_31 (x : Nat) : x &&& 31 = x % 32 := and_mask x 5
theorem and_127 (x : Nat) : x &&& 127 = x % 128 := and_mask x 7
theorem and_255 (x : Nat) : x &&& 255 = x % 256 := and_mask x 8
theorem and_65535 (x : Nat) : x &&& 65535 = x % 65536 := and_mask x 16
theorem and_262143 (x : Nat) : x &&& 262143 = x % 262144 := and_mask x 18

/-- shifts by literal amounts -/
theorem shl_1 (x : Nat) : x <<< 1 = x * 2 := shl x 1
theorem shr_1 (x : Nat) : x >>> 1 = x / 2 := shr x 1
theorem shl_2 (x : Nat) : x <<< 2 = x * 4 := shl x 2
theorem shl_3 (x : Nat) : x <<< 3 = x * 8 := shl x 3
theorem shr_3 (x : Nat) : x >>> 3 = x / 8 := shr x 3
theorem shl_4 (x : Nat) : x <<< 4 = x * 16 := shl x 4
theorem shr_4 (x : Nat) : x >>> 4 = x / 16 := shr x 4
theorem shr_5 (x : Nat) : x >>> 5 = x / 32 := shr x 5
theorem shl_6 (x : Nat) : x <<< 6 = x * 64 := shl x 6
theorem shr_6 (x : Nat) : x >>> 6 = x / 64 := shr x 6
theorem shl_7 (x : Nat) : x <<< 7 = x * 128 := shl x 7
theorem shr_7 (x : Nat) : x >>> 7 = x / 128 := shr x 7
theorem shl_8 (x : Nat) : x <<< 8 = x * 256 := shl x 8
theorem shr_8 (x : Nat) : x >>> 8 = x / 256 := shr x 8
theorem shl_11 (x : Nat) : x <<< 11 = x * 2048 := shl x 11
theorem shr_16 (x : Nat) : x >>> 16 = x / 65536 := shr x 16
theorem shl_26 (x : Nat) : x <<< 26 = x * 67108864 := shl x 26
theorem shr_26 (x : Nat) : x >>> 26 = x / 67108864 := shr x 26

end J1939.Bits
