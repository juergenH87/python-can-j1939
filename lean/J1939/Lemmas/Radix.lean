/-
  Mixed-radix numerals.  Every codec of the library packs fields of fixed widths into one number, or cuts a number
  into bytes: the number is `val ms ds` for the radices `ms` (2^width of each field, or 256 for each byte) and
  `digits ms` reads the fields back.  That the two are inverse is every pack/unpack round trip at once, proved
  without a single concrete radix, so that codec proofs need no div/mod reasoning on large literals.  Against a concrete
  radix list, `simp only [digits, Nat.div_div_eq_div_mul, Nat.reduceMul, List.cons.injEq, and_true] at h` turns
  `h : digits ms v = ds` into one equation per field, with the nested divisions multiplied out to literals.
-/
namespace J1939.Radix

/-- the number whose digits, least significant first, are `ds` in the radices `ms` -/
def val : List Nat → List Nat → Nat
  | [], _ => 0
  | _ :: _, [] => 0
  | m :: ms, d :: ds => d + m * val ms ds

/-- the digits of `v` in the radices `ms`, least significant first -/
def digits : List Nat → Nat → List Nat
  | [], _ => []
  | m :: ms, v => v % m :: digits ms (v / m)

/-- one digit per radix, each below its radix -/
def Below : List Nat → List Nat → Prop
  | d :: ds, m :: ms => d < m ∧ Below ds ms
  | [], [] => True
  | _, _ => False

theorem digits_val : ∀ (ms ds : List Nat), Below ds ms → digits ms (val ms ds) = ds
  | [], [], _ => rfl
  | m :: ms, d :: ds, ⟨h, hs⟩ => by
    rw [val, digits, Nat.add_mul_mod_self_left, Nat.mod_eq_of_lt h, Nat.add_mul_div_left _ _ (Nat.zero_lt_of_lt h),
      Nat.div_eq_of_lt h, Nat.zero_add, digits_val ms ds hs]

theorem val_digits : ∀ (ms : List Nat) (v : Nat), val ms (digits ms v) = v % ms.prod
  | [], v => by rw [val, List.prod_nil, Nat.mod_one]
  | m :: ms, v => by rw [digits, val, val_digits ms, List.prod_cons, Nat.mod_mul]

theorem val_lt : ∀ (ms ds : List Nat), Below ds ms → val ms ds < ms.prod
  | [], [], _ => Nat.one_pos
  | m :: ms, d :: ds, ⟨h, hs⟩ => by
    rw [val, List.prod_cons]
    refine Nat.lt_of_lt_of_le (Nat.add_lt_add_right h _) ?_
    rw [Nat.add_comm, ← Nat.mul_succ]
    exact Nat.mul_le_mul_left m (val_lt ms ds hs)

theorem val_append : ∀ (ms ds ns es : List Nat), ds.length = ms.length →
    val (ms ++ ns) (ds ++ es) = val ms ds + ms.prod * val ns es
  | [], [], ns, es, _ => by rw [List.nil_append, List.nil_append, val, List.prod_nil, Nat.zero_add, Nat.one_mul]
  | m :: ms, d :: ds, ns, es, h => by
    rw [List.cons_append, List.cons_append, val, val, val_append ms ds ns es (Nat.succ.inj h), List.prod_cons, Nat.mul_add,
      Nat.add_assoc, Nat.mul_assoc]

theorem val_digit (ms ds : List Nat) (m d : Nat) (ns es : List Nat) (h : ds.length = ms.length) :
    val (ms ++ m :: ns) (ds ++ d :: es) = val (ms ++ m :: ns) (ds ++ 0 :: es) + ms.prod * d := by
  rw [val_append _ _ _ _ h, val_append _ _ _ _ h, val, val, Nat.zero_add, Nat.mul_add, Nat.add_assoc, Nat.add_comm (ms.prod * d)]

end J1939.Radix
