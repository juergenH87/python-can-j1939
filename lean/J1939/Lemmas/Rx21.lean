/-
  J1939-21: what a received frame can do.  A TP.DT frame from `src` to `dest` touches at most the receive record of
  (src, dest) (`RcvRx`); a TP.CM frame may instead rewrite the send record of (dest, src) in one of three ways (`SndRx`);
  whenever a table changes, a background pass is requested or the handler raised.  Every "no received frame can …" fact
  about the layer is a case analysis on `Rx`.
-/
import J1939.Lemmas.PyDict
import J1939.Lemmas.Const21
import J1939.Lemmas.Cond
namespace J1939.Dll21
open J1939 J1939.Gen

/-- nothing; the record at `k` written (re-armed, or keeping the deadline it had — a BAM announcement first drops a
    lingering record) or removed -/
inductive RcvRx (now k : Nat) (s : St) : Res → Prop
  | same (o : List Out) (e : Option PyErr) : RcvRx now k s { st := s, outs := o, err := e }
  | set (d : PyDict Rcv) (hd : d = s.rcv ∨ d = s.rcv.erase k) (r : Rcv)
      (hr : now < r.deadline ∨ ∃ r0, s.rcv.get? k = some r0 ∧ r.deadline = r0.deadline)
      (o : List Out) (e : Option PyErr) (hw : Out.wake ∈ o ∨ e.isSome = true) :
      RcvRx now k s { st := { s with rcv := d.set k r }, outs := o, err := e }
  | erase (o : List Out) (hw : Out.wake ∈ o) : RcvRx now k s { st := { s with rcv := s.rcv.erase k }, outs := o }

/-- what a TP.CM frame does to the send record it addresses: hold (CTS for 0 packets), CTS, finished (end-of-message
    acknowledgement, abort) -/
inductive SndRx (now : Nat) (b : Snd) : Snd → Prop
  | hold : SndRx now b { b with deadline := now + Const.T21.Th }
  | cts (w : Int) : SndRx now b { b with waitOn := some w, state := S_SENDING_IN_CTS, deadline := now }
  | finished : SndRx now b { b with state := S_FINISHED, deadline := now }

inductive Rx (now src dest : Nat) (s : St) : Res → Prop
  | rcv {r : Res} (h : RcvRx now (Tp21.buffer_hash src dest) s r) : Rx now src dest s r
  | snd (b b' : Snd) (hb : s.snd.get? (Tp21.buffer_hash dest src) = some b) (h : SndRx now b b')
      (o : List Out) (hw : Out.wake ∈ o) :
      Rx now src dest s { st := { s with snd := s.snd.set (Tp21.buffer_hash dest src) b' }, outs := o }

theorem processDt_rx (s : St) (now : Nat) (mid : MessageId) (dest : Nat) (data : List Nat) :
    RcvRx now (Tp21.buffer_hash mid.source_address dest) s (processDt s now mid dest data) := by
  -- for the `omega`s below, which see the timeouts as atoms
  obtain ⟨T1, T2, -, -⟩ := t21_pos
  unfold processDt
  dsimp only
  refine ite_ind (g := id) (RcvRx.same ..) ?_
  cases hr : s.rcv.get? (Tp21.buffer_hash mid.source_address dest) with
  | none => exact .same ..
  | some r =>
    -- the record is written back: with the deadline it had when the handler raises, else re-armed and a pass requested
    have keep (r' : Rcv) (h : r'.deadline = r.deadline) (o : List Out) (e : PyErr) :=
      RcvRx.set (now := now) (s := s) _ (.inl rfl) r' (.inr ⟨r, hr, h⟩) o (some e) (.inr rfl)
    have arm (r' : Rcv) (h : now < r'.deadline) (o : List Out) (hw : Out.wake ∈ o) :=
      RcvRx.set (k := Tp21.buffer_hash mid.source_address dest) (s := s) _ (.inl rfl) r' (.inl h) o none (.inl hw)
    -- complete; last packet of a window (a record without a negotiated window raises); any other packet
    refine ite_ind (g := id) (RcvRx.erase _ (by simp)) (ite_ind (g := id) ?_ (arm _ (by show now < now + _; omega) _ (by simp)))
    cases r.maxRec with
    | none => exact keep _ (by rfl) _ _
    | some mr => exact arm _ (by show now < now + _; omega) _ (by simp)

/-- nothing happened -/
theorem Rx.same {now src dest : Nat} {s : St} {o : List Out} {e : Option PyErr} : Rx now src dest s { st := s, outs := o, err := e } :=
  .rcv (.same ..)

/-- `ite_ind` for a handler result (`g := id` is not found by unification) -/
theorem Rx.ite {now src dest : Nat} {s : St} {c : Prop} [Decidable c] {a b : Res} (ha : Rx now src dest s a) (hb : Rx now src dest s b) :
    Rx now src dest s (if c then a else b) := ite_ind (g := id) ha hb

theorem processCm_rx (cfg : Cfg) (s : St) (now : Nat) (mid : MessageId) (dest : Nat) (data : List Nat) :
    Rx now mid.source_address dest s (processCm cfg s now mid dest data) := by
  obtain ⟨T1, T2, -, -⟩ := t21_pos
  unfold processCm
  dsimp only
  -- too short: ignored; then by control byte: RTS, CTS, EndOfMsgACK, BAM, abort, anything else
  refine .ite .same (.ite ?rts (.ite ?cts (.ite ?ack (.ite ?bam (.ite ?abort .same)))))
  case rts => exact .ite .same (.rcv (.set _ (.inl rfl) _ (.inl (by show now < now + _; omega)) _ _ (.inl (by simp))))
  case cts =>
    cases hb : s.snd.get? (Tp21.buffer_hash dest mid.source_address) with
    | none => exact .same
    | some b => exact .ite (.snd b _ hb .hold _ (by simp)) (.snd b _ hb (.cts _) _ (by simp))
  case ack =>
    cases hb : s.snd.get? (Tp21.buffer_hash dest mid.source_address) with
    | none => exact .same
    | some b => exact .snd b _ hb .finished _ (by simp)
  case bam =>
    -- a lingering record of the pair is dropped first
    cases s.rcv.contains (Tp21.buffer_hash mid.source_address dest) with
    | true => exact .rcv (.set _ (.inr rfl) _ (.inl (by show now < now + _; omega)) _ _ (.inl (by simp)))
    | false => exact .rcv (.set _ (.inl rfl) _ (.inl (by show now < now + _; omega)) _ _ (.inl (by simp)))
  case abort =>
    cases hb : s.snd.get? (Tp21.buffer_hash dest mid.source_address) with
    | none => exact .same
    | some b => exact .ite (.snd b _ hb .finished _ (by simp)) .same

theorem notify_rx (cfg : Cfg) (s : St) (now : Nat) (acc : Nat → Bool) (canId : Nat) (data : List Nat) :
    Rx now (MessageId.ofCanId canId).source_address (PGN.from_message_id (MessageId.ofCanId canId)).pdu_specific s
      (notify cfg s now acc canId data) := by
  unfold notify
  dsimp only
  -- PDU2, not for us, address claim, request: nothing; the two transport PGNs; anything else: nothing
  exact .ite .same (.ite .same (.ite .same (.ite .same (.ite (processCm_rx ..) (.ite (.rcv (processDt_rx ..)) .same)))))

namespace RcvRx
variable {now k : Nat} {s : St} {r : Res}

theorem snd_eq (h : RcvRx now k s r) : r.st.snd = s.snd := by
  cases h <;> rfl

theorem get? (h : RcvRx now k s r) (k' : Nat) (hk : k' ≠ k) : r.st.rcv.get? k' = s.rcv.get? k' := by
  cases h with
  | same => rfl
  | set d hd =>
    refine (PyDict.get?_set_ne _ _ _ _ hk).trans ?_
    rcases hd with rfl | rfl
    · rfl
    · exact PyDict.get?_erase_ne _ _ _ hk
  | erase => exact PyDict.get?_erase_ne _ _ _ hk

theorem rung (h : RcvRx now k s r) : r.st = s ∨ Out.wake ∈ r.outs ∨ r.err.isSome = true := by
  cases h with
  | same => exact .inl rfl
  | set _ _ _ _ _ _ hw => exact .inr hw
  | erase _ hw => exact .inr (.inl hw)

end RcvRx

namespace Rx
variable {now src dest : Nat} {s : St} {r : Res}

theorem rcv_get? (h : Rx now src dest s r) (k : Nat) (hk : k ≠ Tp21.buffer_hash src dest) : r.st.rcv.get? k = s.rcv.get? k := by
  cases h with
  | rcv h => exact h.get? k hk
  | snd => rfl

theorem snd_get? (h : Rx now src dest s r) (k : Nat) (hk : k ≠ Tp21.buffer_hash dest src) : r.st.snd.get? k = s.snd.get? k := by
  cases h with
  | rcv h => rw [h.snd_eq]
  | snd => exact PyDict.get?_set_ne _ _ _ _ hk

theorem snd_keys (h : Rx now src dest s r) : r.st.snd.keys = s.snd.keys := by
  cases h with
  | rcv h => rw [h.snd_eq]
  | snd b b' hb => exact PyDict.keys_set_of_get? _ _ _ _ hb

theorem rung (h : Rx now src dest s r) : r.st = s ∨ Out.wake ∈ r.outs ∨ r.err.isSome = true := by
  cases h with
  | rcv h => exact h.rung
  | snd _ _ _ _ _ hw => exact .inr (.inl hw)

end Rx
end J1939.Dll21
