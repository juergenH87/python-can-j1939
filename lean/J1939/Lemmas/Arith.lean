/-
  Arithmetic shared by the two data link layers: the wake-up computation of the background passes, and the window a
  responder grants.
-/
namespace J1939

/-- the wake-up time after one more record: still in the future -/
theorem wake_min (now nw : Nat) (d : Option Nat) : now < nw → (∀ x, d = some x → now < x) →
    now < (match d with | some d => if nw > d then d else nw | none => nw) := by
  intro hnw hd
  cases d with
  | none => exact hnw
  | some d => have := hd d rfl; dsimp only; split <;> omega

/-- the grant `min mr (n − W)` at the end of a window before the end of the message: at least one packet, no more than
    are left, and the responder's next window ends with the last packet granted -/
theorem grant_spec {mr W n : Nat} (hmr : 0 < mr) (hW : W < n) :
    0 < min mr (n - W) ∧ W + min mr (n - W) ≤ n ∧ min (W + mr) n = W + min mr (n - W) := by
  omega

end J1939
