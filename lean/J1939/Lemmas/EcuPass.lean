/-
  Invariants of one pass of the background loop over the timer list.  Property statements: Props/C12.lean.
  Three layers: what a callback's operations can do (`applyOps_*`), what serving one due event does (`fire_*`), and the
  loop rule `timerLoop_induction` through which every invariant of the loop is proved.
-/
import J1939.Lemmas.Ecu
namespace J1939.Ecu

/-- every `add` a scripted callback performs has a positive period -/
def CbsPos (c : Core) : Prop := ∀ b ∈ c.cbs, ∀ d cb ck, TOp.add d cb ck ∈ b.ops → 0 < d

/-- ghost relation of a timer to its registration: positive period, deadline on the grid born + k·delta, k ≥ 1 -/
def Timer.OnGrid (t : Timer) : Prop := 0 < t.delta ∧ ∃ k, 1 ≤ k ∧ t.deadline = t.born + k * t.delta

/-- identities are unique and below the allocation counter -/
def Core.UidOk (c : Core) : Prop := (c.timers.map (·.uid)).Nodup ∧ ∀ t ∈ c.timers, t.uid < c.nextUid

/-- no callback of the table calls remove_timer -/
def NoRemoveOps (c : Core) : Prop := ∀ b ∈ c.cbs, ∀ cb, TOp.remove cb ∉ b.ops

theorem mem_cbOf_ops (c : Core) (k : Nat) (op : TOp) (h : op ∈ (c.cbOf k).ops) : ∃ b ∈ c.cbs, op ∈ b.ops := by
  unfold Core.cbOf at h
  by_cases hk : k < c.cbs.length
  · exact ⟨c.cbs[k], List.getElem_mem hk, by simpa [List.getD, hk] using h⟩
  · simp [List.getD, List.getElem?_eq_none (Nat.le_of_not_lt hk)] at h

theorem catchUp_spec (dl delta now : Nat) (hd : 0 < delta) (hdue : dl ≤ now) :
    now < catchUp dl delta now ∧ catchUp dl delta now ≤ now + delta ∧
    ∃ k, 1 ≤ k ∧ catchUp dl delta now = dl + k * delta := by
  unfold catchUp
  rw [if_pos hdue, if_neg (by omega)]
  -- the new deadline is `dl + (q + 1) * delta` with `q = (now - dl) / delta`, and `q * delta ≤ now - dl < q * delta + delta`
  have h1 := Nat.div_mul_le_self (now - dl) delta
  have h2 := Nat.lt_mul_div_succ (now - dl) hd
  rw [Nat.mul_comm, Nat.succ_mul] at h2
  refine ⟨?_, ?_, (now - dl) / delta + 1, Nat.le_add_left _ _, rfl⟩ <;> rw [Nat.succ_mul] <;> omega

theorem catchUp_onGrid (t : Timer) (now : Nat) (h : t.OnGrid) :
    ({ t with deadline := catchUp t.deadline t.delta now } : Timer).OnGrid := by
  obtain ⟨hd, k, hk, he⟩ := h
  refine ⟨hd, ?_⟩
  by_cases hdue : t.deadline ≤ now
  · obtain ⟨_, _, k', hk', he'⟩ := catchUp_spec t.deadline t.delta now hd hdue
    refine ⟨k + k', by omega, ?_⟩
    show catchUp t.deadline t.delta now = t.born + (k + k') * t.delta
    rw [he', he, Nat.add_mul]; omega
  · refine ⟨k, hk, ?_⟩
    show catchUp t.deadline t.delta now = t.born + k * t.delta
    unfold catchUp; rw [if_neg hdue]; exact he

theorem uid_unique (c : Core) (h : c.UidOk) (t t' : Timer) (ht : t ∈ c.timers) (ht' : t' ∈ c.timers)
    (he : t.uid = t'.uid) : t = t' := by
  have hp := List.pairwise_map.mp h.1
  exact List.Pairwise.forall_of_forall_of_flip (R := fun a b => a.uid = b.uid → a = b) (fun _ _ _ => rfl)
    (hp.imp fun hne he => absurd he hne) (hp.imp fun hne he => absurd he.symm hne) ht ht' he

/-- identities are kept by whatever leaves a sublist of them and does not lower the allocation counter -/
theorem Core.UidOk.of_sublist {c c' : Core} (h : c.UidOk)
    (hs : (c'.timers.map (·.uid)).Sublist (c.timers.map (·.uid))) (hn : c.nextUid ≤ c'.nextUid) : c'.UidOk := by
  refine ⟨h.1.sublist hs, fun t ht => ?_⟩
  obtain ⟨t0, h0, he⟩ := List.mem_map.mp (hs.subset (List.mem_map_of_mem ht))
  exact he ▸ Nat.lt_of_lt_of_le (h.2 t0 h0) hn

theorem Core.UidOk.addTimer {c : Core} (h : c.UidOk) (now d cb ck : Nat) : (c.addTimer now d cb ck).UidOk := by
  refine ⟨?_, fun t ht => ?_⟩
  · simp only [Core.addTimer, List.map_append, List.map_cons, List.map_nil]
    refine List.nodup_append.mpr ⟨h.1, by simp, fun a ha b hb => ?_⟩
    obtain ⟨t, ht, rfl⟩ := List.mem_map.mp ha
    rw [List.mem_singleton.mp hb]
    exact Nat.ne_of_lt (h.2 t ht)
  · rcases List.mem_append.mp ht with ht | ht
    · exact Nat.lt_succ_of_lt (h.2 t ht)
    · rw [List.mem_singleton.mp ht]; exact Nat.lt_succ_self _

theorem applyOps_induction {P : Core × Nat → Prop} (c : Core) (clk : Nat) (ops : List TOp) (h0 : P (c, clk))
    (step : ∀ s, P s → ∀ op ∈ ops, P (Core.applyOp s op)) : P (c.applyOps clk ops) :=
  List.foldlRecOn ops Core.applyOp h0 step

theorem applyOps_cbs (c : Core) (clk : Nat) (ops : List TOp) : (c.applyOps clk ops).1.cbs = c.cbs :=
  applyOps_induction (P := fun s => s.1.cbs = c.cbs) c clk ops rfl fun s h op _ => by cases op <;> exact h

theorem applyOps_clk_le (c : Core) (clk : Nat) (ops : List TOp) : clk ≤ (c.applyOps clk ops).2 :=
  applyOps_induction (P := fun s => clk ≤ s.2) c clk ops (Nat.le_refl _) fun s h op _ => by
    cases op with
    | busy dt => exact Nat.le_add_right_of_le h
    | _ => exact h

theorem applyOps_nextUid_le (c : Core) (clk : Nat) (ops : List TOp) : c.nextUid ≤ (c.applyOps clk ops).1.nextUid :=
  applyOps_induction (P := fun s => c.nextUid ≤ s.1.nextUid) c clk ops (Nat.le_refl _) fun s h op _ => by
    cases op with
    | add d cb ck => exact Nat.le_succ_of_le h
    | _ => exact h

/-- every change of the timer list produces a wake token: if none was produced the list is untouched -/
theorem applyOps_wake (c : Core) (clk : Nat) (ops : List TOp) :
    c.wake ≤ (c.applyOps clk ops).1.wake ∧ ((c.applyOps clk ops).1.wake = c.wake → (c.applyOps clk ops).1.timers = c.timers) :=
  applyOps_induction (P := fun s => c.wake ≤ s.1.wake ∧ (s.1.wake = c.wake → s.1.timers = c.timers)) c clk ops
    ⟨Nat.le_refl _, fun _ => rfl⟩ fun s h op _ => by
    cases op with
    | add _ _ _ | remove _ => exact ⟨Nat.le_succ_of_le h.1, fun he => absurd he (Nat.ne_of_gt (Nat.lt_succ_of_le h.1))⟩
    | _ => exact h

theorem applyOps_forall (P : Timer → Prop) (c : Core) (clk : Nat) (ops : List TOp)
    (hadd : ∀ d cb ck, TOp.add d cb ck ∈ ops → ∀ clk' uid, c.nextUid ≤ uid →
        P { uid := uid, delta := d, cb := cb, deadline := clk' + d, cookie := ck, born := clk' })
    (h : ∀ t ∈ c.timers, P t) : ∀ t ∈ (c.applyOps clk ops).1.timers, P t := by
  refine (applyOps_induction (P := fun s => c.nextUid ≤ s.1.nextUid ∧ ∀ t ∈ s.1.timers, P t) c clk ops
    ⟨Nat.le_refl _, h⟩ ?_).2
  rintro s ⟨h2, h3⟩ op hop
  cases op with
  | add d cb ck =>
    refine ⟨Nat.le_succ_of_le h2, fun t ht => ?_⟩
    rcases List.mem_append.mp ht with ht | ht
    · exact h3 t ht
    · rw [List.mem_singleton.mp ht]; exact hadd d cb ck hop _ _ h2
  | remove cb => exact ⟨h2, fun t ht => h3 t (List.mem_filter.mp (removeTimer_timers s.1 cb ▸ ht)).1⟩
  | _ => exact ⟨h2, h3⟩

theorem applyOps_uidOk (c : Core) (clk : Nat) (ops : List TOp) (h : c.UidOk) : (c.applyOps clk ops).1.UidOk :=
  applyOps_induction (P := fun s => s.1.UidOk) c clk ops h fun s hs op _ => by
    cases op with
    | add d cb ck => exact hs.addTimer ..
    | remove cb =>
      exact hs.of_sublist (c' := s.1.removeTimer cb) (by rw [removeTimer_timers]; exact List.filter_sublist.map _) (Nat.le_refl _)
    | _ => exact hs

theorem applyOps_mem_of_noRemove (c : Core) (clk : Nat) (ops : List TOp) (hno : ∀ cb, TOp.remove cb ∉ ops)
    (t : Timer) (ht : t ∈ c.timers) : t ∈ (c.applyOps clk ops).1.timers :=
  applyOps_induction (P := fun s => t ∈ s.1.timers) c clk ops ht fun s hs op hop => by
    cases op with
    | add d cb ck => exact List.mem_append_left _ hs
    | remove cb => exact absurd hop (hno cb)
    | _ => exact hs

/-- the list after the callback of the event with identity `u` returned: the event object is re-armed in place (True)
    or removed (anything else) — if it is still in the list -/
def settle (ret : Bool) (u now : Nat) (l : List Timer) : List Timer :=
  if ret then l.map (fun t => if t.uid == u then { t with deadline := catchUp t.deadline t.delta now } else t)
  else l.filter (fun t => t.uid != u)

theorem mem_settle {ret : Bool} {u now : Nat} {l : List Timer} {t : Timer} :
    t ∈ settle ret u now l ↔
      (t ∈ l ∧ t.uid ≠ u) ∨
      (ret = true ∧ ∃ t0 ∈ l, t0.uid = u ∧ t = { t0 with deadline := catchUp t0.deadline t0.delta now }) := by
  cases ret
  · simp [settle]
  · rw [settle, if_pos rfl, List.mem_map]
    constructor
    · rintro ⟨t0, h0, rfl⟩
      by_cases hu : t0.uid = u
      · exact Or.inr ⟨rfl, t0, h0, hu, by rw [beq_iff_eq.mpr hu, if_pos rfl]⟩
      · rw [if_neg (by simpa using hu)]; exact Or.inl ⟨h0, hu⟩
    · rintro (⟨h0, hu⟩ | ⟨_, t0, h0, hu, rfl⟩)
      · exact ⟨t, h0, by rw [if_neg (by simpa using hu)]⟩
      · exact ⟨t0, h0, by rw [beq_iff_eq.mpr hu, if_pos rfl]⟩

theorem settle_uids (ret : Bool) (u now : Nat) (l : List Timer) :
    ((settle ret u now l).map (·.uid)).Sublist (l.map (·.uid)) := by
  unfold settle
  split
  · rw [List.map_map, List.map_congr_left (g := (·.uid)) fun t _ => by simp only [Function.comp]; split <;> rfl]
    exact List.Sublist.refl _
  · exact List.filter_sublist.map _

/-- the loop state after the due event `ev` has been served -/
def fire (now : Nat) (ev : Timer) (c : Core) (clk nw : Nat) (obs : List Obs) : Core × Nat × Nat × List Obs :=
  let r := c.applyOps clk (c.cbOf ev.cb).ops
  ({ r.1 with timers := settle (c.cbOf ev.cb).ret ev.uid now r.1.timers }, r.2,
    if (c.cbOf ev.cb).ret then min nw (catchUp ev.deadline ev.delta now) else nw, obs ++ [Obs.call ev])

section fire
variable {now : Nat} {ev : Timer} {c : Core} {clk nw : Nat} {obs : List Obs}

theorem fire_cbs : (fire now ev c clk nw obs).1.cbs = c.cbs := applyOps_cbs ..

theorem fire_nextUid_le : c.nextUid ≤ (fire now ev c clk nw obs).1.nextUid := applyOps_nextUid_le ..

theorem fire_calls {e : Timer} : Obs.call e ∈ (fire now ev c clk nw obs).2.2.2 ↔ Obs.call e ∈ obs ∨ e = ev := by
  show Obs.call e ∈ obs ++ [Obs.call ev] ↔ _
  rw [List.mem_append, List.mem_singleton, Obs.call.injEq]

theorem fire_nw_le : (fire now ev c clk nw obs).2.2.1 ≤ nw := by
  show (if _ then _ else _) ≤ nw
  split
  · exact Nat.min_le_left ..
  · exact Nat.le_refl _

theorem fire_uidOk (h : c.UidOk) : (fire now ev c clk nw obs).1.UidOk :=
  (applyOps_uidOk c clk _ h).of_sublist (settle_uids ..) (Nat.le_refl _)

theorem fire_forall (P : Timer → Prop)
    (hstable : ∀ t, P t → P { t with deadline := catchUp t.deadline t.delta now })
    (hadd : ∀ b ∈ c.cbs, ∀ d cb ck, TOp.add d cb ck ∈ b.ops → ∀ clk' uid, c.nextUid ≤ uid →
        P { uid := uid, delta := d, cb := cb, deadline := clk' + d, cookie := ck, born := clk' })
    (h : ∀ t ∈ c.timers, P t) : ∀ t ∈ (fire now ev c clk nw obs).1.timers, P t := by
  have hops := applyOps_forall P c clk (c.cbOf ev.cb).ops (fun d cb ck hm => by
    obtain ⟨b, hb, hop⟩ := mem_cbOf_ops c _ _ hm
    exact hadd b hb d cb ck hop) h
  intro t ht
  rcases mem_settle.mp ht with ⟨h0, _⟩ | ⟨_, t0, h0, _, rfl⟩
  · exact hops t h0
  · exact hstable t0 (hops t0 h0)

theorem fire_absent {u : Nat} (hlt : u < c.nextUid) (hab : ∀ t ∈ c.timers, t.uid ≠ u) :
    ∀ t ∈ (fire now ev c clk nw obs).1.timers, t.uid ≠ u :=
  fire_forall (·.uid ≠ u) (fun _ h => h) (fun _ _ _ _ _ _ _ _ hu => Nat.ne_of_gt (Nat.lt_of_lt_of_le hlt hu)) hab

theorem fire_removes (hr : (c.cbOf ev.cb).ret = false) : ∀ t ∈ (fire now ev c clk nw obs).1.timers, t.uid ≠ ev.uid := by
  intro t ht
  rcases mem_settle.mp ht with ⟨_, hu⟩ | ⟨hr', _⟩
  · exact hu
  · rw [hr] at hr'; exact nomatch hr'

theorem fire_keeps (hno : NoRemoveOps c) (t : Timer) (ht : t ∈ c.timers) (hne : t.uid ≠ ev.uid) :
    t ∈ (fire now ev c clk nw obs).1.timers := by
  refine mem_settle.mpr (Or.inl ⟨applyOps_mem_of_noRemove c clk _ (fun cb hm => ?_) t ht, hne⟩)
  obtain ⟨b, hb, hop⟩ := mem_cbOf_ops c _ _ hm
  exact hno b hb cb hop

theorem fire_quiet (h : (fire now ev c clk nw obs).1.wake = 0) :
    c.wake = 0 ∧ (fire now ev c clk nw obs).1.timers = settle (c.cbOf ev.cb).ret ev.uid now c.timers := by
  obtain ⟨hle, hsame⟩ := applyOps_wake c clk (c.cbOf ev.cb).ops
  have h : (c.applyOps clk (c.cbOf ev.cb).ops).1.wake = 0 := h
  exact ⟨by omega, congrArg (settle _ _ _) (hsame (by omega))⟩

end fire

/-- LOOP RULE.  To show that `P` (of the identities still to visit and the loop state) holds when the loop ends, show
    that it survives each of the three things the loop does with the next identity `u`: nothing, if a callback earlier
    in the pass removed the event; lower the wake-up time, if the event is not yet due; serve it (`fire`).  The table of
    callback behaviours `cbs` is the same throughout. -/
theorem timerLoop_induction (now : Nat) (cbs : List UserCb) {P : List Nat → Core × Nat × Nat × List Obs → Prop}
    (skip : ∀ {u snap c clk nw obs}, c.cbs = cbs → (∀ t ∈ c.timers, t.uid ≠ u) →
      P (u :: snap) (c, clk, nw, obs) → P snap (c, clk, nw, obs))
    (wait : ∀ {ev snap c clk nw obs}, c.cbs = cbs → ev ∈ c.timers → now < ev.deadline →
      P (ev.uid :: snap) (c, clk, nw, obs) → P snap (c, clk, min nw ev.deadline, obs))
    (serve : ∀ {ev snap c clk nw obs}, c.cbs = cbs → ev ∈ c.timers → ev.deadline ≤ now →
      P (ev.uid :: snap) (c, clk, nw, obs) → P snap (fire now ev c clk nw obs))
    (snap : List Nat) (c : Core) (clk nw : Nat) (obs : List Obs) (hc : c.cbs = cbs) (h : P snap (c, clk, nw, obs)) :
    P [] (timerLoop now snap c clk nw obs) := by
  induction snap generalizing c clk nw obs with
  | nil => exact h
  | cons u snap ih =>
    rw [timerLoop]
    cases hf : c.timers.find? (·.uid == u) with
    | none => exact ih _ _ _ _ hc (skip hc (fun t ht => by simpa using List.find?_eq_none.mp hf t ht) h)
    | some ev =>
      have hev : ev ∈ c.timers := List.mem_of_find?_eq_some hf
      obtain rfl : ev.uid = u := by simpa using List.find?_some hf
      by_cases hd : ev.deadline > now
      · simp only [hd, if_true]
        exact ih _ _ _ _ hc (wait hc hev hd h)
      · -- `fire` is this branch of the loop body with the two cases of the return value merged
        have := serve hc hev (Nat.le_of_not_gt hd) h
        have := ih _ _ _ _ ((fire_cbs (nw := nw) (obs := obs)).trans hc) this
        simp only [hd, if_false]
        cases hr : (c.cbOf ev.cb).ret
        · simpa only [fire, settle, hr, Bool.false_eq_true, if_false] using this
        · simpa only [fire, settle, hr, if_true] using this

theorem timerLoop_forall (P : Timer → Prop) (now : Nat)
    (hstable : ∀ t, P t → P { t with deadline := catchUp t.deadline t.delta now })
    (snap : List Nat) (c : Core) (clk nw : Nat) (obs : List Obs)
    (hadd : ∀ b ∈ c.cbs, ∀ d cb ck, TOp.add d cb ck ∈ b.ops → ∀ clk' uid,
        P { uid := uid, delta := d, cb := cb, deadline := clk' + d, cookie := ck, born := clk' })
    (h : ∀ t ∈ c.timers, P t) (hobs : ∀ ev, Obs.call ev ∈ obs → P ev) :
    (∀ t ∈ (timerLoop now snap c clk nw obs).1.timers, P t) ∧
    (∀ ev, Obs.call ev ∈ (timerLoop now snap c clk nw obs).2.2.2 → P ev) := by
  refine timerLoop_induction now c.cbs (P := fun _ s => (∀ t ∈ s.1.timers, P t) ∧ ∀ ev, Obs.call ev ∈ s.2.2.2 → P ev)
    ?_ ?_ ?_ snap c clk nw obs rfl ⟨h, hobs⟩
  · exact fun _ _ h => h
  · exact fun _ _ _ h => h
  · intro ev snap c' clk nw obs hc hev _ h
    refine ⟨fire_forall P hstable
      (fun b hb d cb ck hm clk' uid _ => hadd b (hc ▸ hb) d cb ck hm clk' uid) h.1, fun e he => ?_⟩
    rcases fire_calls.mp he with he | rfl
    · exact h.2 e he
    · exact h.1 e hev

/-- What the timer loop of the pass that starts from `c0` at time `now`, with the wake-up time `w` of the data link
    layer, maintains (`snap`: the identities still to visit; the loop state `s` is core, clock, wake-up time found so
    far, observations).  `due`: an event is called only after its interval and its deadline have passed.  `gone` speaks
    of `c0`'s callback table: the table is the same throughout the pass.  `cover`: if no wake token is pending, every timer already
    visited is later than the wake-up time found so far.  `gone`: the event of a callback that returned non-True has
    left the list for good.  `served`: without remove_timer in the table, every timer that was registered and due at
    the start has been called or is still waiting, unchanged, for its turn. -/
structure LoopInv (now w : Nat) (c0 : Core) (snap : List Nat) (s : Core × Nat × Nat × List Obs) : Prop where
  uid    : s.1.UidOk
  grid   : ∀ t ∈ s.1.timers, t.OnGrid
  cbs    : CbsPos s.1
  due    : ∀ ev, Obs.call ev ∈ s.2.2.2 → ev.born + ev.delta ≤ now ∧ ev.deadline ≤ now
  le     : s.2.2.1 ≤ w
  cover  : s.1.wake = 0 → ∀ t ∈ s.1.timers, t.uid ∈ snap ∨ (s.2.2.1 ≤ t.deadline ∧ now < t.deadline)
  gone   : ∀ e, Obs.call e ∈ s.2.2.2 → (c0.cbOf e.cb).ret = false → e.uid < s.1.nextUid ∧ ∀ t ∈ s.1.timers, t.uid ≠ e.uid
  served : NoRemoveOps c0 → ∀ t ∈ c0.timers, t.deadline ≤ now →
    Obs.call t ∈ s.2.2.2 ∨ (t.uid ∈ snap ∧ t ∈ s.1.timers)

theorem pass_inv (c : Core) (now clk w : Nat) (hu : c.UidOk) (hg : ∀ t ∈ c.timers, t.OnGrid) (hc : CbsPos c) :
    LoopInv now w c [] (timerLoop now (c.timers.map (·.uid)) c clk w []) := by
  refine timerLoop_induction now c.cbs ?skip ?wait ?serve _ c clk w [] rfl
    { uid := hu, grid := hg, cbs := hc, due := fun _ he => (nomatch he), le := Nat.le_refl _,
      cover := fun _ _ ht => Or.inl (List.mem_map_of_mem ht), gone := fun _ he => (nomatch he),
      served := fun _ t ht _ => Or.inr ⟨List.mem_map_of_mem ht, ht⟩ }
  case skip =>
    intro u snap c' clk nw obs _ hnone h
    exact { h with
      cover := fun hw t ht => (h.cover hw t ht).imp_left fun hm => (List.mem_cons.mp hm).resolve_left (hnone t ht)
      served := fun hno t ht hd => (h.served hno t ht hd).imp_right fun ⟨hm, ht'⟩ =>
        ⟨(List.mem_cons.mp hm).resolve_left (hnone t ht'), ht'⟩ }
  case wait =>
    intro ev snap c' clk nw obs _ hev hnd h
    refine { h with le := Nat.le_trans (Nat.min_le_left ..) h.le, cover := fun hw t ht => ?cover,
                    served := fun hno t ht hd => ?served }
    case cover =>
      rcases h.cover hw t ht with hm | hacc
      · rcases List.mem_cons.mp hm with he | hm
        · obtain rfl := uid_unique c' h.uid t ev ht hev he
          exact Or.inr ⟨Nat.min_le_right .., hnd⟩
        · exact Or.inl hm
      · exact Or.inr ⟨Nat.le_trans (Nat.min_le_left ..) hacc.1, hacc.2⟩
    case served =>
      -- a timer that is due is not the one found waiting
      refine (h.served hno t ht hd).imp_right fun ⟨hm, ht'⟩ => ⟨(List.mem_cons.mp hm).resolve_left fun he => ?_, ht'⟩
      obtain rfl := uid_unique c' h.uid t ev ht' hev he
      omega
  case serve =>
    intro ev snap c' clk nw obs hc' hev hdue h
    have hgrid := h.grid ev hev
    refine { uid := fire_uidOk h.uid, grid := ?grid, cbs := fun b hb => h.cbs b (fire_cbs ▸ hb), due := fun e he => ?due,
             le := Nat.le_trans fire_nw_le h.le, cover := fun hw t ht => ?cover, gone := fun e he hr => ?gone,
             served := fun hno t ht hd => ?served }
    case grid =>
      exact fire_forall Timer.OnGrid (fun t => catchUp_onGrid t now)
        (fun b hb d cb ck hm clk' uid _ => ⟨h.cbs b hb d cb ck hm, 1, Nat.le_refl _, by simp⟩) h.grid
    case due =>
      rcases fire_calls.mp he with he | rfl
      · exact h.due e he
      · obtain ⟨_, k, hk, he⟩ := hgrid
        have : e.delta ≤ k * e.delta := Nat.le_mul_of_pos_left _ hk
        omega
    case cover =>
      obtain ⟨hw0, htim⟩ := fire_quiet hw
      rcases mem_settle.mp (htim ▸ ht) with ⟨h0, hu⟩ | ⟨hr, t0, h0, hu, rfl⟩
      · rcases h.cover hw0 t h0 with hm | hacc
        · exact Or.inl ((List.mem_cons.mp hm).resolve_left hu)
        · exact Or.inr ⟨Nat.le_trans fire_nw_le hacc.1, hacc.2⟩
      · -- the served event itself, re-armed: its new deadline is the new wake-up time or later, and after `now`
        obtain rfl := uid_unique c' h.uid t0 ev h0 hev hu
        refine Or.inr ⟨?_, (catchUp_spec _ _ now hgrid.1 hdue).1⟩
        show (if _ then _ else _) ≤ _
        rw [if_pos hr]; exact Nat.min_le_right ..
    case gone =>
      rcases fire_calls.mp he with he | rfl
      · obtain ⟨hlt, hab⟩ := h.gone e he hr
        exact ⟨Nat.lt_of_lt_of_le hlt fire_nextUid_le, fire_absent hlt hab⟩
      · exact ⟨Nat.lt_of_lt_of_le (h.uid.2 e hev) fire_nextUid_le, fire_removes (by rw [Core.cbOf, hc']; exact hr)⟩
    case served =>
      rcases h.served hno t ht hd with hcalled | ⟨hm, ht'⟩
      · exact Or.inl (List.mem_append_left _ hcalled)
      · by_cases he : t.uid = ev.uid
        · obtain rfl := uid_unique c' h.uid t ev ht' hev he
          exact Or.inl (List.mem_append_right _ (List.mem_singleton_self _))
        · exact Or.inr ⟨(List.mem_cons.mp hm).resolve_left he, fire_keeps (fun b hb => hno b (hc' ▸ hb)) t ht' he⟩

theorem pass_spec (c : Core) (now clk w : Nat) :
    let r := timerLoop now (c.timers.map (·.uid)) c clk w []
    ∃ w' sl, c.pass now clk w = ({ r.1 with wake := w' }, r.2.1, sl, r.2.2.2) ∧
      ∀ d, sl = Sleep.sleep d → r.2.2.1 > r.2.1 ∧ r.1.wake = 0 ∧ d = r.2.2.1 - r.2.1 := by
  unfold Core.pass
  generalize timerLoop now (c.timers.map (·.uid)) c clk w [] = r
  obtain ⟨c1, clk1, nw, obs⟩ := r
  dsimp only
  by_cases h1 : nw > clk1
  · rw [if_pos h1]
    by_cases h2 : c1.wake > 0
    · rw [if_pos h2]; exact ⟨_, _, rfl, fun _ h => nomatch h⟩
    · rw [if_neg h2]
      exact ⟨c1.wake, _, rfl, fun d h => ⟨h1, Nat.eq_zero_of_not_pos h2, (Sleep.sleep.inj h).symm⟩⟩
  · rw [if_neg h1]; exact ⟨c1.wake, _, rfl, fun _ h => nomatch h⟩

end J1939.Ecu
