/-
  J1939-22 multi-PG packing: the header of a contained group and the buffer key as mixed-radix numerals (`Lemmas/Radix`),
  the unpack loop one group at a time, the packed size of a list of groups, the frame `__send_multi_pg` builds, the loop
  rule of `mpgPlace` and what the multi-PG part of the background pass does with one buffer.
  Property statements: Props/C11.lean.
-/
import J1939.Model.Dll22
import J1939.Lemmas.PyDict
import J1939.Lemmas.Bits
import J1939.Lemmas.Radix

namespace J1939.Props.C11
open J1939 J1939.Gen J1939.Dll22

/-- the bytes of one contained parameter group: 3 header bytes (TOS, TF, 18-bit C-PGN), the length, the data -/
def enc (c : Cpg) : List Nat := [Mpg.hdr0 c.tos c.tf c.cpgn, Mpg.hdr1 c.tos c.tf c.cpgn, Mpg.hdr2 c.tos c.tf c.cpgn, c.data.length] ++ c.data

/-- a group as send_pgn creates it: TOS 2 (SAE J1939, no assurance data), TF 0, 18-bit C-PGN, 1..60 data bytes -/
def CpgOk (c : Cpg) : Prop := c.tos = 2 ∧ c.tf = 0 ∧ c.cpgn < 262144 ∧ 1 ≤ c.data.length ∧ c.data.length ≤ 60

/-- the packed size of a list of groups: 4 header bytes + data each -/
def packedSize (cpgs : List Cpg) : Nat := (cpgs.map (fun c => 4 + c.data.length)).sum

/-- the priority of a multi-PG frame: the numerically lowest of its groups, at most 7 -/
def framePrio (cpgs : List Cpg) : Nat := cpgs.foldl (fun p c => min c.priority p) 7

def paddedData (cpgs : List Cpg) : List Nat :=
  let d := cpgs.flatMap enc
  let p := Py.idx Const.LUT_FD_DLC d.length - d.length
  d ++ (List.replicate (min p 3) 0 ++ List.replicate (p - 3) 170)

def feffFrame (cpgs : List Cpg) (src dst : Nat) : Frame :=
  { id := MessageId.can_id (MessageId.ofFields (framePrio cpgs) (Const.PGN.FEFF_MULTI_PG ||| (dst &&& 255)) src),
    ext := true, data := paddedData cpgs, fd := true }

def BufOk (b : MpgBuf) : Prop := b.fill = packedSize b.cpgs ∧ b.fill ≤ 64 ∧ b.cpgs ≠ []

end J1939.Props.C11

namespace J1939.Dll22
open J1939 J1939.Gen J1939.Props.C11 J1939.Bits J1939.Radix

theorem hdr_fields (tos tf cpgn len : Nat) (rest : List Nat) (h1 : tos < 8) (h2 : tf < 8) (h3 : cpgn < 262144) (h4 : len < 256) :
    let d := Mpg.hdr0 tos tf cpgn :: Mpg.hdr1 tos tf cpgn :: Mpg.hdr2 tos tf cpgn :: len :: rest
    Mpg.tos d = tos ∧ Mpg.tf d = tf ∧ Mpg.cpgn d = cpgn ∧ Mpg.len d = len := by
  have hx : cpgn / 65536 % 4 < 4 := Nat.mod_lt _ (by decide)
  -- byte 0 is the numeral with the digits (two top bits of the C-PGN, TF, TOS) in the radices 4, 8, 8 …
  have e0 : Mpg.hdr0 tos tf cpgn = val [4, 8, 8] [cpgn / 65536 % 4, tf, tos] := by
    rw [Mpg.hdr0, and_3, shr_16, shl_or_shl_or tos tf _ 3 2 h2 hx]
    generalize cpgn / 65536 % 4 = x
    simp only [val]; omega
  have hd := digits_val [4, 8, 8] [cpgn / 65536 % 4, tf, tos] ⟨hx, h2, h1, trivial⟩
  rw [← e0] at hd
  -- … and byte 2, byte 1 and those two bits are the digits of the C-PGN in the radices 256, 256, 4
  have hv := val_digits [256, 256, 4] cpgn
  simp only [digits, val, List.cons.injEq, List.prod_cons, List.prod_nil, Nat.div_div_eq_div_mul, Nat.reduceMul,
    Nat.mod_eq_of_lt h3, and_true] at hd hv
  -- hd : hdr0 % 4 = cpgn / 65536 % 4 ∧ hdr0 / 4 % 8 = tf ∧ hdr0 / 32 % 8 = tos
  -- hv : cpgn % 256 + 256 * (cpgn / 256 % 256 + 256 * (cpgn / 65536 % 4 + 0)) = cpgn
  obtain ⟨d0, d1, d2⟩ := hd
  simp only [Mpg.tos, Mpg.tf, Mpg.cpgn, Mpg.len, Mpg.hdr1, Mpg.hdr2, Py.idx, List.getD_cons_zero, List.getD_cons_succ, and_7, and_3,
    and_255, shr_5, shr_8, shr _ 2, Nat.reducePow, d0, d1, d2, Nat.mod_eq_of_lt h4, true_and, and_true]
  rw [shl_or_shl_or _ _ _ 8 8 (Nat.mod_lt _ (by decide)) (Nat.mod_lt _ (by decide))]
  generalize cpgn / 65536 % 4 = a, cpgn / 256 % 256 = b, cpgn % 256 = c at hv ⊢
  omega

theorem unpackMpg_enc (prio sa dest fuel : Nat) (c : Cpg) (h : CpgOk c) (rest : List Nat) :
    unpackMpg prio sa dest (fuel + 1) (enc c ++ rest) =
      Out.notify prio c.cpgn sa dest c.data :: unpackMpg prio sa dest fuel rest := by
  obtain ⟨h1, h2, h3, h4, h5⟩ := h
  obtain ⟨d1, d2, d3, d4⟩ := hdr_fields c.tos c.tf c.cpgn c.data.length (c.data ++ rest) (by omega) (by omega) h3 (by omega)
  simp only [enc, List.cons_append, List.nil_append]
  rw [unpackMpg, if_neg (by simp only [List.length_cons, List.length_append]; omega)]
  simp only [d1, d2, d3, d4]
  -- TOS 2, TF 0: handed up; the data are the `len` bytes behind the header, the next group begins behind them
  simp only [h1, h2, Nat.reduceBEq, Bool.false_eq_true, ↓reduceIte, BEq.rfl, Bool.and_self, List.drop_succ_cons, List.drop_zero,
    List.take_left', Nat.add_comm 4, List.drop_left', List.cons_append, List.nil_append]

/-- the unpack loop stops at the padding: at most four bytes, or the 0x00 of the padding service header in the TOS place -/
theorem unpackMpg_pad (prio sa dest fuel : Nat) (pad : List Nat) (hpad : pad.length ≤ 4 ∨ pad.head? = some 0) :
    unpackMpg prio sa dest fuel pad = [] := by
  cases fuel with
  | zero => rfl
  | succ fuel =>
    rw [unpackMpg]
    by_cases hl : pad.length ≤ 4
    · rw [if_pos hl]
    · cases pad with
      | nil => exact absurd (Nat.zero_le 4) hl
      | cons x xs =>
        obtain rfl : x = 0 := by simpa using hpad.resolve_left hl
        have h0 : Mpg.tos (0 :: xs) = 0 := by
          simp only [Mpg.tos, Py.idx, List.getD_cons_zero, Nat.zero_shiftRight, Nat.zero_and]
        rw [if_neg hl, h0]
        rfl

theorem buffer_hash_mpg_val (ff c s d : Nat) :
    Tp22.buffer_hash_mpg ff c s d = val [256, 256, 256, 256] [d % 256, s % 256, c % 256, ff % 256] := by
  have h256 : 0 < 256 := by decide
  -- the bytes are or-ed together most significant first, `le32_or` has them least significant first
  rw [Tp22.buffer_hash_mpg, and_255, and_255, and_255, and_255, Nat.or_comm _ (d % 256), Nat.or_comm _ (_ <<< 8),
    Nat.or_comm (_ <<< 24), ← Nat.or_assoc, ← Nat.or_assoc,
    le32_or _ _ _ _ (Nat.mod_lt _ h256) (Nat.mod_lt _ h256) (Nat.mod_lt _ h256)]
  simp only [val, Nat.mul_zero, Nat.add_zero]

theorem buffer_unhash_mpg_digits (k : Nat) :
    digits [256, 256, 256, 256] k = [(Tp22.buffer_unhash_mpg k).2.2.2, (Tp22.buffer_unhash_mpg k).2.2.1,
      (Tp22.buffer_unhash_mpg k).2.1, (Tp22.buffer_unhash_mpg k).1] := by
  simp only [Tp22.buffer_unhash_mpg, and_255, shr, digits, Nat.div_div_eq_div_mul, Nat.reduceMul, Nat.reducePow]

theorem enc_length (cpgs : List Cpg) : (cpgs.flatMap enc).length = packedSize cpgs := by
  induction cpgs with
  | nil => rfl
  | cons c cs ih =>
    simp only [List.flatMap_cons, List.length_append, ih, packedSize, List.map_cons, List.sum_cons, enc, List.length_cons, List.length_nil]

theorem lut_length : Const.LUT_FD_DLC.length = 65 := by decide

/-- `__send_multi_pg` in terms of the packed size: IndexError above 64 bytes, else the groups' bytes padded to the next
    FD length, under the source address alone (FBFF) or the extended identifier (FEFF) -/
theorem multiPgFrame_eq (ff : Nat) (cpgs : List Cpg) (src dst : Nat) :
    multiPgFrame ff cpgs src dst =
      if 64 < packedSize cpgs then none
      else if ff == Const.FF.FBFF then some { id := src, ext := false, data := paddedData cpgs, fd := true }
      else some (feffFrame cpgs src dst) := by
  have hlen : ((cpgs.flatMap enc).length ≥ Const.LUT_FD_DLC.length) = (64 < packedSize cpgs) := by
    rw [lut_length, enc_length]; exact propext ⟨fun h => h, fun h => h⟩
  simp only [multiPgFrame, ← enc.eq_1, hlen, feffFrame, paddedData, framePrio, List.append_assoc]

theorem multiPgFrame_some (ff : Nat) (cpgs : List Cpg) (src dst : Nat) (h : packedSize cpgs ≤ 64) :
    (multiPgFrame ff cpgs src dst).isSome = true := by
  rw [multiPgFrame_eq, if_neg (Nat.not_lt.mpr h)]
  split <;> rfl

/-- the loop stops when the fuel is used up, creates a buffer under a free key, appends to a
    buffer with room, or marks a full buffer as due and goes on with the next key -/
theorem mpgPlace_induction (now deadline ff src dst : Nat) (cpg : Cpg)
    {P : Nat → Nat → PyDict MpgBuf → List Out → PyDict MpgBuf × List Out → Prop}
    (stop : ∀ session m o, P 0 session m o (m, o))
    (create : ∀ fuel session m o, m.get? (Tp22.buffer_hash_mpg ff session src dst) = none →
      P (fuel + 1) session m o
        (m.set (Tp22.buffer_hash_mpg ff session src dst) { deadline := deadline, cpgs := [cpg], fill := 4 + cpg.data.length }, o ++ [.wake]))
    (append : ∀ fuel session m o b, m.get? (Tp22.buffer_hash_mpg ff session src dst) = some b →
      b.fill ≤ Const.DL22.TP - cpg.data.length →
      P (fuel + 1) session m o
        (m.set (Tp22.buffer_hash_mpg ff session src dst)
          { b with fill := b.fill + 4 + cpg.data.length, deadline := if b.deadline > deadline then deadline else b.deadline,
                   cpgs := b.cpgs ++ [cpg] },
         if b.deadline > deadline then o ++ [.wake] else o))
    (full : ∀ fuel session m o b r, m.get? (Tp22.buffer_hash_mpg ff session src dst) = some b →
      ¬ b.fill ≤ Const.DL22.TP - cpg.data.length →
      P fuel (session + 1) (m.set (Tp22.buffer_hash_mpg ff session src dst) { b with deadline := now }) (o ++ [.wake]) r →
      P (fuel + 1) session m o r)
    (fuel session : Nat) (m : PyDict MpgBuf) (o : List Out) :
    P fuel session m o (mpgPlace now deadline ff src dst cpg fuel session m o) := by
  induction fuel generalizing session m o with
  | zero => exact stop session m o
  | succ fuel ih =>
    rw [mpgPlace]
    cases hg : m.get? (Tp22.buffer_hash_mpg ff session src dst) with
    | none => exact create fuel session m o hg
    | some b =>
      by_cases hfit : b.fill ≤ Const.DL22.TP - cpg.data.length
      · simp only [hfit, if_true]; exact append fuel session m o b hg hfit
      · simp only [hfit, if_false]; exact full fuel session m o b _ hg hfit (ih ..)

theorem mpgPlace_all (Q : MpgBuf → Prop) (now deadline ff src dst : Nat) (cpg : Cpg)
    (hnew : Q { deadline := deadline, cpgs := [cpg], fill := 4 + cpg.data.length })
    (happ : ∀ b d, Q b → b.fill ≤ Const.DL22.TP - cpg.data.length → Q { b with fill := b.fill + 4 + cpg.data.length, deadline := d, cpgs := b.cpgs ++ [cpg] })
    (hdl : ∀ b d, Q b → Q { b with deadline := d })
    (fuel session : Nat) (m : PyDict MpgBuf) (o : List Out) (h : PyDict.All Q m) :
    PyDict.All Q (mpgPlace now deadline ff src dst cpg fuel session m o).1 := by
  refine mpgPlace_induction now deadline ff src dst cpg (P := fun _ _ m _ r => PyDict.All Q m → PyDict.All Q r.1)
    ?_ ?_ ?_ ?_ fuel session m o h
  · exact fun _ _ _ h => h
  · exact fun _ _ m _ _ h => PyDict.all_set _ _ _ _ h hnew
  · exact fun _ _ m _ b hg hfit h => PyDict.all_set _ _ _ _ h (happ b _ (h _ _ hg) hfit)
  · exact fun _ _ m _ b _ hg _ ih h => ih (PyDict.all_set _ _ _ _ h (hdl b now (h _ _ hg)))

theorem mpgPlace_fill (now deadline ff src dst : Nat) (cpg : Cpg) (hlen : cpg.data.length ≤ 60) (fuel session : Nat)
    (m : PyDict MpgBuf) (o : List Out) (h : PyDict.All BufOk m) :
    PyDict.All BufOk (mpgPlace now deadline ff src dst cpg fuel session m o).1 := by
  have htp : Const.DL22.TP = 60 := rfl
  refine mpgPlace_all BufOk now deadline ff src dst cpg ⟨by simp [packedSize], by simp only; omega, by simp⟩ ?_
    (fun _ _ h => h) fuel session m o h
  rintro b d ⟨b1, b2, _⟩ hfit
  refine ⟨?_, by simp only; omega, by simp⟩
  simp only [packedSize, List.map_append, List.sum_append, List.map_cons, List.map_nil, List.sum_cons, List.sum_nil]
  rw [b1, packedSize]; omega

theorem mpgPlace_keys (now deadline ff src dst : Nat) (cpg : Cpg) (fuel session : Nat) (m : PyDict MpgBuf) (o : List Out)
    (h : m.keys.Nodup) : (mpgPlace now deadline ff src dst cpg fuel session m o).1.keys.Nodup := by
  refine mpgPlace_induction now deadline ff src dst cpg (P := fun _ _ m _ r => m.keys.Nodup → r.1.keys.Nodup)
    ?_ ?_ ?_ ?_ fuel session m o h
  · exact fun _ _ _ h => h
  · exact fun _ _ _ _ _ h => PyDict.keys_set_nodup _ _ _ h
  · exact fun _ _ _ _ _ _ _ h => PyDict.keys_set_nodup _ _ _ h
  · exact fun _ _ _ _ _ _ _ _ ih h => ih (PyDict.keys_set_nodup _ _ _ h)

theorem tickMpg_due (now k : Nat) (ks : List Nat) (s : St) (nw : Nat) (o : List Out) (buf : MpgBuf) (f : Frame)
    (hg : s.mpg.get? k = some buf) (hdue : buf.deadline ≤ now)
    (hf : multiPgFrame (Tp22.buffer_unhash_mpg k).1 buf.cpgs (Tp22.buffer_unhash_mpg k).2.2.1 (Tp22.buffer_unhash_mpg k).2.2.2 = some f) :
    tickMpg now (k :: ks) s nw o = tickMpg now ks { s with mpg := s.mpg.erase k } nw (o ++ [.tx f]) := by
  rw [tickMpg, hg]
  dsimp only
  rw [if_neg (Nat.not_lt.mpr hdue), hf]

theorem tickMpg_early (now k : Nat) (ks : List Nat) (s : St) (nw : Nat) (o : List Out) (buf : MpgBuf)
    (hg : s.mpg.get? k = some buf) (h : now < buf.deadline) :
    tickMpg now (k :: ks) s nw o = tickMpg now ks s (if nw > buf.deadline then buf.deadline else nw) o := by
  rw [tickMpg, hg]
  dsimp only
  rw [if_pos h]

end J1939.Dll22

namespace J1939.Props.C11

/-- legal CAN FD data lengths -/
def legalFd (n : Nat) : Bool := n ≤ 8 || n == 12 || n == 16 || n == 20 || n == 24 || n == 32 || n == 48 || n == 64

end J1939.Props.C11

namespace J1939.Dll22
open J1939 J1939.Gen

theorem lut_legal : ∀ n < 65, n ≤ Py.idx Const.LUT_FD_DLC n ∧ Py.idx Const.LUT_FD_DLC n ≤ 64 ∧
    Props.C11.legalFd (Py.idx Const.LUT_FD_DLC n) = true := by
  decide +kernel

end J1939.Dll22
