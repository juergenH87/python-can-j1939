/-
  `send_pgn` of the J1939-21 model: what it does with the send table (`Sent`), and, on a message of more than 8 bytes, the
  PGN it announces, the record it opens and the announcement it sends, for a broadcast and for a destination-specific
  transfer.
-/
import J1939.Model.Dll21
import J1939.Lemmas.Codec
namespace J1939.Dll21
open J1939 J1939.Gen J1939.Lemmas

/-- the destination a message of more than 8 bytes is sent to: PS for a PDU1 PGN with PS ≠ 255, else global -/
def _root_.J1939.Props.C09.C10dest (pf ps : Nat) : Nat :=
  if ps == Const.Addr.GLOBAL || PGN.is_pdu2_format (PGN.ofFields 0 pf ps) then Const.Addr.GLOBAL else ps

/-- what `send_pgn` does with the send table, `k` being the session key of (source, destination): a message of at most 8
    bytes goes out at once; a longer one is refused while `k` is busy, and otherwise opens the record at `k`, announces it
    and asks for a pass (`hd`, `hs`: what `WF` asks of the new record) -/
inductive Sent (now k : Nat) (long : Prop) (s : St) : Res × Bool → Prop
  | short (h : ¬ long) (f : Frame) : Sent now k long s ({ st := s, outs := [.tx f] }, true)
  | refused (h : long) (hk : s.snd.contains k = true) : Sent now k long s ({ st := s }, false)
  | opened (h : long) (hk : s.snd.contains k = false) (b : Snd) (hd : now ≤ b.deadline) (hs : b.state ≠ S_SENDING_IN_CTS)
      (f : Frame) : Sent now k long s ({ st := { s with snd := s.snd.set k b }, outs := [.tx f, .wake] }, true)

theorem sendPgn_sent (cfg : Cfg) (s : St) (now dp pf ps prio sa : Nat) (data : List Nat) :
    Sent now (Tp21.buffer_hash sa (J1939.Props.C09.C10dest pf ps)) (8 < data.length) s (sendPgn cfg s now dp pf ps prio sa data) := by
  unfold sendPgn J1939.Props.C09.C10dest
  dsimp only
  by_cases hl : data.length ≤ 8
  · rw [if_pos hl]; exact .short (by omega) _
  rw [if_neg hl]
  replace hl : 8 < data.length := by omega
  generalize (if (ps == Const.Addr.GLOBAL || PGN.is_pdu2_format (PGN.ofFields 0 pf ps)) = true then Const.Addr.GLOBAL else ps) = dest
  by_cases hk : s.snd.contains (Tp21.buffer_hash sa dest) = true
  · rw [if_pos hk]; exact .refused hl hk
  rw [if_neg hk]
  replace hk : s.snd.contains (Tp21.buffer_hash sa dest) = false := by simpa using hk
  by_cases hg : (dest == Const.Addr.GLOBAL) = true
  · rw [if_pos hg]; exact .opened hl hk _ (Nat.le_add_right ..) (show S_SENDING_BM ≠ _ by decide) _
  · rw [if_neg hg]; exact .opened hl hk _ (Nat.le_add_right ..) (show S_WAITING_CTS ≠ _ by decide) _

theorem sendPgn_free (cfg : Cfg) (s : St) (now dp pf ps prio sa : Nat) (data : List Nat) (hl : 8 < data.length)
    (hacc : (sendPgn cfg s now dp pf ps prio sa data).2 = true) :
    s.snd.contains (Tp21.buffer_hash sa (Props.C09.C10dest pf ps)) = false := by
  have h := sendPgn_sent cfg s now dp pf ps prio sa data
  generalize sendPgn cfg s now dp pf ps prio sa data = r at h hacc
  cases h with
  | short h => omega
  | refused => cases hacc
  | opened _ hk => exact hk

/-- the PGN a destination-specific transfer announces: PS cleared -/
def rtsPgn (dp pf ps : Nat) : Nat := PGN.value { PGN.ofFields dp pf ps with pdu_specific := 0 }

theorem rtsPgn_lt (dp pf ps : Nat) : rtsPgn dp pf ps < 16777216 := by
  obtain ⟨a, b, -⟩ := pgn_ofFields_wf dp pf ps
  exact pgn_value_lt _ ⟨a, b, Nat.zero_lt_succ _⟩

/-- the PGN a broadcast announces: PS cleared for a PDU1 PGN -/
def bamPgn (dp pf ps : Nat) : Nat :=
  if PGN.is_pdu1_format (PGN.ofFields dp pf ps) then PGN.value { PGN.ofFields dp pf ps with pdu_specific := 0 }
  else PGN.value (PGN.ofFields dp pf ps)

theorem bamPgn_lt (dp pf ps : Nat) : bamPgn dp pf ps < 16777216 := by
  unfold bamPgn
  split
  · exact rtsPgn_lt dp pf ps
  · exact pgn_value_lt _ (pgn_ofFields_wf dp pf ps)

def bamRec (cfg : Cfg) (now dp pf ps prio sa : Nat) (data : List Nat) : Snd :=
  { pgn := bamPgn dp pf ps, priority := prio, messageSize := data.length, numPackages := Tp21.num_packets data.length,
    data := data, state := S_SENDING_BM, deadline := now + cfg.bamInterval, src := sa, dest := 255, next := 0, waitOn := none }

theorem sendPgn_bam (cfg : Cfg) (s : St) (now dp pf ps prio sa : Nat) (data : List Nat) (hl : 8 < data.length)
    (hb : (ps == Const.Addr.GLOBAL || PGN.is_pdu2_format (PGN.ofFields 0 pf ps)) = true)
    (hacc : (sendPgn cfg s now dp pf ps prio sa data).2 = true) :
    (sendPgn cfg s now dp pf ps prio sa data).1 =
      { st := { s with snd := s.snd.set (Tp21.buffer_hash sa 255) (bamRec cfg now dp pf ps prio sa data) },
        outs := [.tx (Tp21.bam sa prio (bamPgn dp pf ps) data.length (Tp21.num_packets data.length)), .wake] } := by
  have hc := sendPgn_free cfg s now dp pf ps prio sa data hl hacc
  rw [Props.C09.C10dest, if_pos hb] at hc
  rw [sendPgn, if_neg (by omega)]
  simp only [hb, if_true, hc]
  rfl

def rtsRec (now dp pf ps prio sa : Nat) (data : List Nat) : Snd :=
  { pgn := rtsPgn dp pf ps, priority := prio, messageSize := data.length, numPackages := Tp21.num_packets data.length,
    data := data, state := S_WAITING_CTS, deadline := now + Const.T21.T3, src := sa, dest := ps, next := 0, waitOn := some 0 }

theorem sendPgn_rts (cfg : Cfg) (s : St) (now dp pf ps prio sa : Nat) (data : List Nat) (hl : 8 < data.length)
    (hb : (ps == Const.Addr.GLOBAL || PGN.is_pdu2_format (PGN.ofFields 0 pf ps)) = false)
    (hacc : (sendPgn cfg s now dp pf ps prio sa data).2 = true) :
    (sendPgn cfg s now dp pf ps prio sa data).1 =
      { st := { s with snd := s.snd.set (Tp21.buffer_hash sa ps) (rtsRec now dp pf ps prio sa data) },
        outs := [.tx (Tp21.rts sa ps prio (rtsPgn dp pf ps) data.length (Tp21.num_packets data.length)
                        (min cfg.maxCmdt (Tp21.num_packets data.length))), .wake] } := by
  have hc := sendPgn_free cfg s now dp pf ps prio sa data hl hacc
  obtain ⟨hne, h2⟩ := Bool.or_eq_false_iff.1 hb
  rw [Props.C09.C10dest, hb, if_neg Bool.false_ne_true] at hc
  rw [sendPgn, if_neg (by omega)]
  simp only [hne, h2, Bool.or_false, Bool.false_eq_true, if_false, hc]
  rfl

end J1939.Dll21
