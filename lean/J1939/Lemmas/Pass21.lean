/-
  J1939-21: how the send window loop stops (`Win`).
-/
import J1939.Model.Dll21
namespace J1939.Dll21
open J1939 J1939.Gen

/-- the TP.DT frames of packages `a, a+1, …, a+n-1` of a record -/
def dtFrames (b : Snd) (a n : Nat) : List Out :=
  (List.range' a n).map (fun p => Out.tx (Tp21.dt b.src b.dest (chunk b.data p)))

theorem dtFrames_succ (b : Snd) (a n : Nat) :
    dtFrames b a (n + 1) = Out.tx (Tp21.dt b.src b.dest (chunk b.data a)) :: dtFrames b (a + 1) n := by
  simp [dtFrames, List.range'_succ]

/-- how the send window loop, started on `b` with wait-on packet `w`, stops at `next = n`: package `w` went out; one
    package went out and a pacing interval is configured; or nothing is left to send (`done.hw`: and then package `w` has
    not gone out in this pass) -/
inductive Win (cfg : Cfg) (now : Nat) (b : Snd) (w : Int) (n : Nat) : Snd → Prop
  | wait (h : (n : Int) = w + 1) : Win cfg now b w n { b with next := n, state := S_WAITING_CTS, deadline := now + Const.T21.T3 }
  | paced (iv : Nat) (hiv : cfg.cmdtInterval = some iv) (h : n = b.next + 1) (hne : (b.next : Int) ≠ w) :
      Win cfg now b w n { b with next := n, deadline := now + iv }
  | done (h : b.numPackages ≤ n) (hw : w < b.next ∨ (n : Int) ≤ w) : Win cfg now b w n { b with next := n }

/-- with fuel for the rest of the message or for the rest of the window -/
theorem sendWindow_win (cfg : Cfg) (now : Nat) (fuel : Nat) (b : Snd) (o : List Out) (w : Int)
    (hw : b.waitOn = some w)
    (hfuel : b.numPackages - b.next < fuel ∨ ((b.next : Int) ≤ w ∧ w < b.numPackages ∧ w - b.next < fuel)) :
    ∃ n r, sendWindow cfg now fuel b o = (r, o ++ dtFrames b b.next (n - b.next), none) ∧ b.next ≤ n ∧ Win cfg now b w n r := by
  induction fuel generalizing b o with
  | zero => omega
  | succ fuel ih =>
    obtain ⟨pgn, prio, ms, np, data, st, dl, src, dst, nx, wo⟩ := b
    subst hw
    dsimp only at hfuel ⊢
    rw [sendWindow]
    by_cases hlt : nx < np
    · rw [if_pos hlt]
      dsimp only
      have one : nx + 1 - nx = 1 := Nat.add_sub_cancel_left ..
      have h1 : nx ≤ nx + 1 := Nat.le_succ _
      by_cases heq : ((nx : Int) == w) = true
      · rw [if_pos heq]
        exact ⟨nx + 1, _, by rw [one]; rfl, h1, .wait (by simp at heq; omega)⟩
      rw [if_neg heq]
      replace heq : (nx : Int) ≠ w := by simpa using heq
      cases hiv : cfg.cmdtInterval with
      | some iv => exact ⟨nx + 1, _, by rw [one]; rfl, h1, .paced iv hiv rfl heq⟩
      | none =>
        dsimp only
        obtain ⟨n, r, e, g1, hwin⟩ := ih ⟨pgn, prio, ms, np, data, st, dl, src, dst, nx + 1, some w⟩
          (o ++ [.tx (Tp21.dt src dst (chunk data nx))]) rfl (by dsimp only; omega)
        dsimp only at g1
        refine ⟨n, r, ?_, by omega, ?_⟩
        · rw [e, show n - nx = (n - (nx + 1)) + 1 by omega, dtFrames_succ, List.append_assoc]; rfl
        · -- the outcome of the rest of the loop is the outcome of the whole
          cases hwin with
          | wait h => exact .wait h
          | paced iv' hiv' => rw [hiv] at hiv'; cases hiv'
          | done h hw' => exact .done h (by dsimp only at hw' ⊢; omega)
    · rw [if_neg hlt]
      exact ⟨nx, _, by simp [dtFrames], Nat.le_refl _, .done (Nat.le_of_not_lt hlt) (by dsimp only; omega)⟩

end J1939.Dll21
