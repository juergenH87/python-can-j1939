/-
  A whole J1939-21 reception: feeding the TP.DT frames of a message to the responder.
-/
import J1939.Lemmas.PyDict
import J1939.Lemmas.Seg21
import J1939.Lemmas.Step21
namespace J1939.Dll21
open J1939 J1939.Gen

/-- feed the TP.DT frames of one session one after the other, each at its own time -/
def feedDt (s : St) (mid : MessageId) (dest : Nat) : List (Nat × List Nat) → St × List Out
  | [] => (s, [])
  | (now, f) :: fs =>
    let r := processDt s now mid dest f
    let q := feedDt r.st mid dest fs
    (q.1, r.outs ++ q.2)

/-- the deliveries to the application contained in an output list -/
def deliveries (o : List Out) : List (Nat × Nat × Nat × Nat × List Nat) :=
  o.filterMap (fun x => match x with | .notify p g sa d data => some (p, g, sa, d, data) | _ => none)

theorem deliveries_append (a b : List Out) : deliveries (a ++ b) = deliveries a ++ deliveries b :=
  List.filterMap_append

theorem dt_incomplete (s : St) (now : Nat) (mid : MessageId) (dest : Nat) (f : List Nat) (r : Rcv)
    (hf : f.length = 8) (hr : s.rcv.get? (Tp21.buffer_hash mid.source_address dest) = some r)
    (hmr : dest ≠ Const.Addr.GLOBAL → ∃ mr, r.maxRec = some mr)
    (hc : r.data.length + 7 < r.messageSize) :
    deliveries (processDt s now mid dest f).outs = [] ∧
    ∃ r', (processDt s now mid dest f).st.rcv.get? (Tp21.buffer_hash mid.source_address dest) = some r' ∧
      r'.data = r.data ++ f.drop 1 ∧ r'.messageSize = r.messageSize ∧ r'.pgn = r.pgn ∧ r'.maxRec = r.maxRec := by
  by_cases hw : dest ≠ Const.Addr.GLOBAL ∧ r.nextPacket ≤ Py.idx f 0
  · obtain ⟨mr, hmr⟩ := hmr hw.1
    rw [dt_window_end hf hr hw.1 hmr hc hw.2]
    exact ⟨rfl, _, PyDict.get?_set_self _ _ _, rfl, rfl, rfl, rfl⟩
  · rw [dt_mid hf hr hc (by omega)]
    exact ⟨rfl, _, PyDict.get?_set_self _ _ _, rfl, rfl, rfl, rfl⟩

section Holds
variable {s : St} {now : Nat} {mid : MessageId} {dest : Nat} {data : List Nat} {j : Nat} {r : Rcv}

theorem payloads_chunk (hdata : r.data = payloads data j) : r.data ++ (chunk data j).drop 1 = payloads data (j + 1) := by
  rw [chunk_drop_one, hdata, payloads_snoc]

theorem short_of_size (hlen : 0 < data.length) (hdata : r.data = payloads data j) (hsize : r.messageSize = data.length)
    (hj : j + 1 < Tp21.num_packets data.length) : r.data.length + 7 < r.messageSize := by
  have := partial_too_short data.length (j + 1) hlen hj
  rw [hsize, hdata, payloads_length]
  omega

theorem dt_last (hr : s.rcv.get? (Tp21.buffer_hash mid.source_address dest) = some r) (hdata : r.data = payloads data j)
    (hsize : r.messageSize = data.length) (hj : j + 1 = Tp21.num_packets data.length) :
    processDt s now mid dest (chunk data j) =
      { st := { s with rcv := s.rcv.erase (Tp21.buffer_hash mid.source_address dest) },
        outs := (if dest = Const.Addr.GLOBAL then [] else [.tx (Tp21.eom_ack dest mid.source_address data.length r.numPackages r.pgn)]) ++
                [.notify mid.priority r.pgn mid.source_address dest data, .wake] } := by
  have hcov := (num_packets_spec data.length).1
  rw [dt_complete (chunk_length data j) hr (by rw [hsize, hdata, payloads_length]; omega), payloads_chunk hdata, hsize, hj,
    payloads_take data _ hcov]

end Holds

/-- RESPONDER TRACE: a receive record that holds the first `j` packets of `data`, fed the remaining TP.DT frames in
    order (at arbitrary times), delivers `data` exactly once — at the last packet — and is removed; nothing raises -/
theorem feed_delivers (data : List Nat) (hlen : 0 < data.length) (mid : MessageId) (dest : Nat)
    (m : Nat) (j : Nat) (hj : j + m = Tp21.num_packets data.length) (hm : 0 < m)
    (times : List Nat) (ht : times.length = m) (s : St) (r : Rcv)
    (hr : s.rcv.get? (Tp21.buffer_hash mid.source_address dest) = some r)
    (hsize : r.messageSize = data.length) (hdata : r.data = payloads data j)
    (hmr : dest ≠ Const.Addr.GLOBAL → ∃ mr, r.maxRec = some mr) :
    let frames := (List.range' j m).map (chunk data)
    deliveries (feedDt s mid dest (times.zip frames)).2 = [(mid.priority, r.pgn, mid.source_address, dest, data)] ∧
    (feedDt s mid dest (times.zip frames)).1.rcv.get? (Tp21.buffer_hash mid.source_address dest) = none := by
  induction m generalizing j times s r with
  | zero => omega
  | succ m ih =>
    obtain ⟨t, times, rfl⟩ := List.exists_cons_of_length_eq_add_one ht
    simp only [List.range'_succ, List.map_cons, List.zip_cons_cons, feedDt]
    by_cases hlast : m = 0
    · subst hlast
      simp only [List.range'_zero, List.map_nil, List.zip_nil_right, feedDt, List.append_nil]
      rw [dt_last hr hdata hsize hj]
      refine ⟨?_, PyDict.get?_erase_self _ _⟩
      split <;> rfl
    · obtain ⟨d1, r', hr', hd', hs', hp', hm'⟩ := dt_incomplete s t mid dest (chunk data j) r (chunk_length data j) hr hmr
        (short_of_size hlen hdata hsize (by omega))
      have := ih (j + 1) (by omega) (by omega) times (Nat.succ.inj ht) _ r' hr' (hs'.trans hsize) (hd'.trans (payloads_chunk hdata))
        (hm' ▸ hmr)
      rw [deliveries_append, d1, ← hp']
      exact this

end J1939.Dll21
