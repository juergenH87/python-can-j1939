/-
  Lemmas about the insertion-ordered dictionary model: lookup after `set` / `erase`, the key list, `All`.
-/
import J1939.Model.Basic
namespace J1939.PyDict
variable {α : Type}

theorem contains_iff_get? (d : PyDict α) (k : Nat) : d.contains k = (d.get? k).isSome := by
  induction d with
  | nil => rfl
  | cons p d ih =>
    simp only [contains, get?, List.any_cons, List.find?_cons] at *
    cases h : p.1 == k <;> simp [ih]

theorem get?_set (d : PyDict α) (k : Nat) (v : α) (x : Nat) : (d.set k v).get? x = if x = k then some v else d.get? x := by
  induction d with
  | nil => by_cases h : x = k <;> simp [set, get?, h, Ne.symm]
  | cons p d ih =>
    unfold set
    by_cases hp : p.1 = k
    · by_cases h : x = k <;> simp [get?, hp, h, Ne.symm]
    · by_cases hx : p.1 = x
      · simp [get?, hx, hx ▸ hp]
      · simpa [get?, List.find?_cons, hp, hx] using ih

theorem get?_erase (d : PyDict α) (k x : Nat) : (d.erase k).get? x = if x = k then none else d.get? x := by
  induction d with
  | nil => simp [erase, get?]
  | cons p d ih =>
    by_cases hp : p.1 = k
    · by_cases h : x = k <;> simpa [erase, get?, List.filter_cons, List.find?_cons, hp, h, Ne.symm] using ih
    · by_cases hx : p.1 = x
      · simp [erase, get?, hx, hx ▸ hp]
      · simpa [erase, get?, List.filter_cons, List.find?_cons, hp, hx] using ih

theorem get?_set_self (d : PyDict α) (k : Nat) (v : α) : (d.set k v).get? k = some v := by
  rw [get?_set, if_pos rfl]

theorem get?_set_ne (d : PyDict α) (k k' : Nat) (v : α) (h : k' ≠ k) : (d.set k v).get? k' = d.get? k' := by
  rw [get?_set, if_neg h]

theorem get?_erase_self (d : PyDict α) (k : Nat) : (d.erase k).get? k = none := by
  rw [get?_erase, if_pos rfl]

theorem get?_erase_ne (d : PyDict α) (k k' : Nat) (h : k' ≠ k) : (d.erase k).get? k' = d.get? k' := by
  rw [get?_erase, if_neg h]

theorem contains_set (d : PyDict α) (k : Nat) (v : α) (x : Nat) : (d.set k v).contains x = (x == k || d.contains x) := by
  rw [contains_iff_get?, contains_iff_get?, get?_set]
  by_cases h : x = k <;> simp [h]

theorem contains_set_self (d : PyDict α) (k : Nat) (v : α) : (d.set k v).contains k = true := by
  simp [contains_set]

theorem contains_set_ne (d : PyDict α) (k k' : Nat) (v : α) (h : k' ≠ k) : (d.set k v).contains k' = d.contains k' := by
  simp [contains_set, h]

theorem contains_erase_self (d : PyDict α) (k : Nat) : (d.erase k).contains k = false := by
  rw [contains_iff_get?, get?_erase_self]; rfl

theorem contains_erase_ne (d : PyDict α) (k k' : Nat) (h : k' ≠ k) : (d.erase k).contains k' = d.contains k' := by
  rw [contains_iff_get?, contains_iff_get?, get?_erase_ne d k k' h]

theorem mem_keys_iff_get? (d : PyDict α) (k : Nat) : k ∈ d.keys ↔ (d.get? k).isSome = true := by
  rw [← contains_iff_get?]
  simp [keys, contains]

theorem get?_isSome_of_mem_keys (d : PyDict α) (k : Nat) (h : k ∈ d.keys) : (d.get? k).isSome :=
  (mem_keys_iff_get? d k).mp h

theorem mem_keys_of_get? (d : PyDict α) (k : Nat) (v : α) (h : d.get? k = some v) : k ∈ d.keys :=
  (mem_keys_iff_get? d k).mpr (by rw [h]; rfl)

theorem keys_set (d : PyDict α) (k : Nat) (v : α) : (d.set k v).keys = if k ∈ d.keys then d.keys else d.keys ++ [k] := by
  induction d with
  | nil => rfl
  | cons p d ih =>
    unfold set
    by_cases hp : p.1 = k
    · simp [keys, hp]
    · have : (p.1 == k) = false := by simpa using hp
      simp only [this, Bool.false_eq_true, if_false, keys, List.map_cons, List.mem_cons, Ne.symm hp, false_or] at ih ⊢
      rw [ih]; split <;> simp [*]

theorem keys_set_of_get? (d : PyDict α) (k : Nat) (v w : α) (h : d.get? k = some w) : (d.set k v).keys = d.keys := by
  rw [keys_set, if_pos (mem_keys_of_get? d k w h)]

theorem keys_set_nodup (d : PyDict α) (k : Nat) (v : α) (h : d.keys.Nodup) : (d.set k v).keys.Nodup := by
  rw [keys_set]
  split
  · exact h
  · rename_i hk
    exact List.nodup_append.mpr ⟨h, by simp, fun a ha b hb e => hk (by rw [List.mem_singleton.mp hb] at e; exact e ▸ ha)⟩

theorem keys_erase_nodup (d : PyDict α) (k : Nat) (h : d.keys.Nodup) : (d.erase k).keys.Nodup :=
  List.Nodup.sublist (List.Sublist.map _ List.filter_sublist) h

def All (P : α → Prop) (d : PyDict α) : Prop := ∀ k v, d.get? k = some v → P v

theorem all_set (P : α → Prop) (d : PyDict α) (k : Nat) (v : α) (h : All P d) (hv : P v) : All P (d.set k v) := by
  intro k' v' hg
  rw [get?_set] at hg
  split at hg
  · cases hg; exact hv
  · exact h k' v' hg

theorem all_erase (P : α → Prop) (d : PyDict α) (k : Nat) (h : All P d) : All P (d.erase k) := by
  intro k' v' hg
  rw [get?_erase] at hg
  split at hg
  · cases hg
  · exact h k' v' hg

theorem all_nil (P : α → Prop) : All P ([] : PyDict α) := by intro k v h; cases h

end J1939.PyDict
