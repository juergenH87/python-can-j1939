/-
  The table invariant `WF` of the J1939-21 layer: preserved by every received frame (`Rx.wf`; `send_pgn`: Props/C07.lean),
  and sufficient for the loops of the background pass never to raise, to leave the tables well-formed and to ask for a
  wake-up in the future (`tickRcv_ok`, `tickSnd_ok`).  Property statements: Props/C07.lean, C08.lean, C10.lean.
-/
import J1939.Lemmas.Pass21
import J1939.Lemmas.Send21
import J1939.Lemmas.Rx21
import J1939.Lemmas.Arith
namespace J1939.Dll21
open J1939 J1939.Gen

/-- configured pacing intervals are positive -/
def CfgPos (cfg : Cfg) : Prop := 0 < cfg.bamInterval ∧ ∀ iv, cfg.cmdtInterval = some iv → 0 < iv

def SndOk (b : Snd) : Prop := b.deadline ≠ 0 ∧ (b.state = S_SENDING_IN_CTS → b.waitOn.isSome = true)
def RcvOk (r : Rcv) : Prop := r.deadline ≠ 0

/-- well-formed tables: unique keys, every record has a deadline, a record that is sending in a CTS window knows
    where the window ends.  Deadline 0 is the code's "not armed" (the pass skips such a record for ever), and handlers
    store `deadline := now`: hence the hypotheses `0 < now` of everything that handles a frame or a call, here and in
    the schedules of the two-party theorems -/
def WF (s : St) : Prop := s.rcv.keys.Nodup ∧ s.snd.keys.Nodup ∧ PyDict.All RcvOk s.rcv ∧ PyDict.All SndOk s.snd

theorem WF.rk {s : St} (h : WF s) : s.rcv.keys.Nodup := h.1
theorem WF.sk {s : St} (h : WF s) : s.snd.keys.Nodup := h.2.1
theorem WF.rcv {s : St} (h : WF s) : PyDict.All RcvOk s.rcv := h.2.2.1
theorem WF.snd {s : St} (h : WF s) : PyDict.All SndOk s.snd := h.2.2.2

theorem wf_set_snd (s : St) (k : Nat) (b : Snd) (h : WF s) (hb : SndOk b) : WF { s with snd := s.snd.set k b } :=
  ⟨h.1, PyDict.keys_set_nodup _ _ _ h.2.1, h.2.2.1, PyDict.all_set _ _ _ _ h.2.2.2 hb⟩

theorem wf_set_rcv (s : St) (k : Nat) (r : Rcv) (h : WF s) (hr : RcvOk r) : WF { s with rcv := s.rcv.set k r } :=
  ⟨PyDict.keys_set_nodup _ _ _ h.rk, h.sk, PyDict.all_set _ _ _ _ h.rcv hr, h.snd⟩

theorem wf_erase_rcv (s : St) (k : Nat) (h : WF s) : WF { s with rcv := s.rcv.erase k } :=
  ⟨PyDict.keys_erase_nodup _ _ h.rk, h.sk, PyDict.all_erase _ _ _ h.rcv, h.snd⟩

theorem SndRx.ok {now : Nat} {b b' : Snd} (h : SndRx now b b') (hnow : 0 < now) (hb : SndOk b) : SndOk b' := by
  cases h with
  | hold => exact ⟨Nat.ne_of_gt (Nat.add_pos_left hnow _), hb.2⟩
  | cts => exact ⟨Nat.ne_of_gt hnow, fun _ => rfl⟩
  | finished => exact ⟨Nat.ne_of_gt hnow, fun h => absurd (show S_FINISHED = S_SENDING_IN_CTS from h) (by decide)⟩

theorem RcvRx.wf {now k : Nat} {s : St} {r : Res} (h : RcvRx now k s r) (hwf : WF s) : WF r.st := by
  cases h with
  | same => exact hwf
  | set d hd r' hr =>
    have hok : RcvOk r' := by
      rcases hr with hr | ⟨r0, h0, e⟩
      · exact Nat.ne_of_gt (Nat.lt_of_le_of_lt (Nat.zero_le _) hr)
      · exact fun h => hwf.rcv k r0 h0 (e ▸ h)
    rcases hd with rfl | rfl
    · exact wf_set_rcv s k r' hwf hok
    · exact wf_set_rcv _ k r' (wf_erase_rcv s k hwf) hok
  | erase => exact wf_erase_rcv s k hwf

theorem Rx.wf {now src dest : Nat} {s : St} {r : Res} (h : Rx now src dest s r) (hnow : 0 < now) (hwf : WF s) : WF r.st := by
  cases h with
  | rcv h => exact h.wf hwf
  | snd b b' hb h => exact wf_set_snd s _ b' hwf (h.ok hnow (hwf.snd _ b hb))

/-- what the send loop needs of one record's pass: no exception; what remains is well-formed and due in the future; the
    wake-up it contributes is in the future -/
structure SndStepOk (now : Nat) (r : Option Snd × List Out × Option PyErr × Option Nat) : Prop where
  err : r.2.2.1 = none
  rec_ : ∀ b', r.1 = some b' → SndOk b' ∧ now < b'.deadline
  wake : ∀ d, r.2.2.2 = some d → now < d

theorem SndStepOk.gone {now : Nat} {o : List Out} : SndStepOk now (none, o, none, none) := ⟨rfl, nofun, nofun⟩

theorem SndStepOk.stays {now : Nat} {b : Snd} {o : List Out} (h : SndOk b ∧ now < b.deadline) :
    SndStepOk now (some b, o, none, some b.deadline) :=
  ⟨rfl, fun _ e => Option.some.inj e ▸ h, fun _ e => Option.some.inj e ▸ h.2⟩

theorem tickSndOne_spec (cfg : Cfg) (now : Nat) (b : Snd) (hc : CfgPos cfg) (hb : SndOk b) :
    SndStepOk now (tickSndOne cfg now b) := by
  have ht : 0 < Const.T21.T3 := t21_pos.2.2.1
  have hbi := hc.1
  unfold tickSndOne
  rw [if_pos (by simpa using hb.1)]
  by_cases hfut : b.deadline > now
  · rw [if_pos hfut]; exact .stays ⟨hb, hfut⟩
  rw [if_neg hfut]
  by_cases h1 : (b.state == S_WAITING_CTS) = true
  · rw [if_pos h1]; exact .gone
  rw [if_neg h1]
  by_cases h2 : (b.state == S_SENDING_IN_CTS) = true
  · rw [if_pos h2]
    replace h2 : b.state = S_SENDING_IN_CTS := eq_of_beq h2
    obtain ⟨w, hw⟩ := Option.isSome_iff_exists.mp (hb.2 h2)
    obtain ⟨n, r, e, _, hwin⟩ := sendWindow_win cfg now _ b [] w hw (.inl (Nat.lt_succ_self _))
    rw [e]
    simp only [Option.isNone_none, Bool.true_and, if_true]
    have waiting : ∀ r : Snd, SndOk { r with state := S_WAITING_CTS, deadline := now + Const.T21.T3 } ∧ now < now + Const.T21.T3 :=
      fun _ => ⟨⟨by show now + _ ≠ 0; omega, fun h => absurd h (show S_WAITING_CTS ≠ S_SENDING_IN_CTS by decide)⟩, by omega⟩
    refine .stays ?_
    -- a record left SENDING with nothing more to send waits for a CTS again (repair of D1)
    split
    · exact waiting r
    rename_i hcond
    cases hwin with
    | wait => exact waiting _
    | paced iv hiv =>
      have := hc.2 iv hiv
      exact ⟨⟨by show now + _ ≠ 0; omega, fun _ => hw ▸ rfl⟩, by show now < now + _; omega⟩
    | done h => exact absurd (by simpa [h2] using h) hcond
  rw [if_neg h2]
  by_cases h3 : (b.state == S_SENDING_BM) = true
  · rw [if_pos h3]
    dsimp only
    by_cases h4 : b.next + 1 < b.numPackages
    · rw [if_pos h4]
      exact .stays ⟨⟨by show now + _ ≠ 0; omega,
        fun h => absurd ((eq_of_beq h3).symm.trans h) (show S_SENDING_BM ≠ S_SENDING_IN_CTS by decide)⟩, by show now < now + _; omega⟩
    · rw [if_neg h4]; exact .gone
  · rw [if_neg h3]; exact .gone

theorem tickRcvOne_spec (now : Nat) (r : Rcv) (hr : RcvOk r) :
    (∀ r', (tickRcvOne now r).1 = some r' → r' = r ∧ now < r.deadline) ∧
    (∀ d, (tickRcvOne now r).2.2 = some d → now < d) ∧
    ((tickRcvOne now r).1 = none → r.deadline ≤ now) := by
  unfold tickRcvOne
  rw [if_pos (by simpa [RcvOk] using hr)]
  by_cases hfut : r.deadline > now
  · rw [if_pos hfut]
    exact ⟨fun r' h => by cases h; exact ⟨rfl, hfut⟩, fun d h => by cases h; exact hfut, nofun⟩
  · rw [if_neg hfut]
    exact ⟨nofun, nofun, fun _ => Nat.le_of_not_lt hfut⟩

theorem tickRcv_keeps (now : Nat) (ks : List Nat) (s : St) (nw : Nat) (o : List Out) :
    (tickRcv now ks s nw o).1.snd = s.snd ∧
    ∀ k r, s.rcv.get? k = some r → now < r.deadline → (tickRcv now ks s nw o).1.rcv.get? k = some r := by
  induction ks generalizing s nw o with
  | nil => exact ⟨rfl, fun _ _ h _ => h⟩
  | cons k' ks ih =>
    unfold tickRcv
    cases hg' : s.rcv.get? k' with
    | none => exact ih s nw o
    | some buf =>
      dsimp only
      cases hr : (tickRcvOne now buf).1 with
      | some r' => exact ih s _ _
      | none =>
        obtain ⟨i1, i2⟩ := ih { s with rcv := s.rcv.erase k' } (match (tickRcvOne now buf).2.2 with
          | some d => if nw > d then d else nw | none => nw) (o ++ (tickRcvOne now buf).2.1)
        refine ⟨i1, fun k r hg hlive => i2 k r ?_ hlive⟩
        -- had the visited record been `r` itself, it would not have been removed
        have hkk : k ≠ k' := by
          rintro rfl
          obtain rfl : r = buf := by rw [hg] at hg'; exact Option.some.inj hg'
          exact absurd ((tickRcvOne_spec now r (Nat.ne_of_gt (Nat.zero_lt_of_lt hlive))).2.2 hr) (Nat.not_le.mpr hlive)
        exact (PyDict.get?_erase_ne _ _ _ hkk).trans hg

/-- over ANY list of keys — also a stale snapshot: keys that are gone are skipped (D19) -/
theorem tickRcv_ok (now : Nat) (ks : List Nat) (s : St) (nw : Nat) (o : List Out) (hwf : WF s) (hnw : now < nw) :
    ∃ s' nw' o', tickRcv now ks s nw o = (s', nw', o', none) ∧ WF s' ∧ now < nw' ∧
      ∀ k v, s'.rcv.get? k = some v → s.rcv.get? k = some v ∧ (k ∈ ks → now < v.deadline) := by
  induction ks generalizing s nw o with
  | nil => exact ⟨s, nw, o, rfl, hwf, hnw, fun k v h => ⟨h, fun hk => absurd hk List.not_mem_nil⟩⟩
  | cons k ks ih =>
    -- the table stays as it is: `k` is gone already, or its record is not due
    have keep : ∀ nw1 o1, now < nw1 → (∀ v, s.rcv.get? k = some v → now < v.deadline) →
        ∃ s' nw' o', tickRcv now ks s nw1 o1 = (s', nw', o', none) ∧ WF s' ∧ now < nw' ∧
          ∀ k' v, s'.rcv.get? k' = some v → s.rcv.get? k' = some v ∧ (k' ∈ k :: ks → now < v.deadline) := by
      intro nw1 o1 hnw1 hk
      obtain ⟨s', nw', o', e, w, n, f⟩ := ih s nw1 o1 hwf hnw1
      refine ⟨s', nw', o', e, w, n, fun k' v hv => ⟨(f k' v hv).1, fun hk' => ?_⟩⟩
      rcases List.mem_cons.mp hk' with rfl | hk'
      · exact hk v (f _ v hv).1
      · exact (f k' v hv).2 hk'
    unfold tickRcv
    cases hg : s.rcv.get? k with
    | none => exact keep nw o hnw (fun v hv => by rw [hg] at hv; cases hv)
    | some buf =>
      dsimp only
      obtain ⟨h1, h2, _⟩ := tickRcvOne_spec now buf (hwf.rcv k buf hg)
      have hnw' := wake_min now nw (tickRcvOne now buf).2.2 hnw h2
      cases hr : (tickRcvOne now buf).1 with
      | some r' => exact keep _ _ hnw' (fun v hv => by rw [hg] at hv; cases hv; exact (h1 r' hr).2)
      | none =>
        obtain ⟨s', nw', o', e, w, n, f⟩ := ih { s with rcv := s.rcv.erase k } _ (o ++ (tickRcvOne now buf).2.1)
          (wf_erase_rcv s k hwf) hnw'
        refine ⟨s', nw', o', e, w, n, fun k' v hv => ?_⟩
        obtain ⟨f1, f2⟩ := f k' v hv
        rw [show ({ s with rcv := s.rcv.erase k } : St).rcv = s.rcv.erase k from rfl, PyDict.get?_erase] at f1
        by_cases hkk : k' = k
        · rw [if_pos hkk] at f1; cases f1
        · rw [if_neg hkk] at f1
          exact ⟨f1, fun hk' => f2 ((List.mem_cons.mp hk').resolve_left hkk)⟩

theorem tickSnd_rcv (cfg : Cfg) (now : Nat) (ks : List Nat) (s : St) (nw : Nat) (o : List Out) :
    (tickSnd cfg now ks s nw o).1.rcv = s.rcv := by
  induction ks generalizing s nw o with
  | nil => rfl
  | cons k ks ih =>
    unfold tickSnd
    cases s.snd.get? k with
    | none => rfl
    | some buf =>
      dsimp only
      cases (tickSndOne cfg now buf).2.2.1 with
      | some e => cases (tickSndOne cfg now buf).1 <;> rfl
      | none => cases (tickSndOne cfg now buf).1 <;> exact ih _ _ _

/-- what the send loop over the keys `ks` leaves of `s`: well-formed tables and a wake-up in the future; it touched only
    the records it visited, left those due in the future, and added no key -/
structure SndLoop (now : Nat) (ks : List Nat) (s s' : St) (nw' : Nat) : Prop where
  wf : WF s'
  wake : now < nw'
  other : ∀ k, k ∉ ks → s'.snd.get? k = s.snd.get? k
  future : ∀ k v, s'.snd.get? k = some v → k ∈ ks → now < v.deadline
  noNew : ∀ k, (s'.snd.get? k).isSome = true → (s.snd.get? k).isSome = true

theorem tickSnd_ok (cfg : Cfg) (now : Nat) (hc : CfgPos cfg) (ks : List Nat) (s : St) (nw : Nat) (o : List Out)
    (hks : ks.Nodup) (hpres : ∀ k ∈ ks, (s.snd.get? k).isSome = true) (hwf : WF s) (hnw : now < nw) :
    ∃ s' nw' o', tickSnd cfg now ks s nw o = (s', nw', o', none) ∧ SndLoop now ks s s' nw' := by
  induction ks generalizing s nw o with
  | nil => exact ⟨s, nw, o, rfl, hwf, hnw, fun _ _ => rfl, fun _ _ _ hk => absurd hk List.not_mem_nil, fun _ h => h⟩
  | cons k ks ih =>
    obtain ⟨hkn, hks'⟩ := List.nodup_cons.mp hks
    obtain ⟨buf, hg⟩ := Option.isSome_iff_exists.mp (hpres k (List.mem_cons_self ..))
    unfold tickSnd
    rw [hg]
    dsimp only
    obtain ⟨h0, h1, h2⟩ := tickSndOne_spec cfg now buf hc (hwf.snd k buf hg)
    rw [h0]
    dsimp only
    have hnw' := wake_min now nw (tickSndOne cfg now buf).2.2.2 hnw h2
    -- `s1`: the table after this record, `k` rewritten or removed and every other key as before
    have rest : ∀ nw1, now < nw1 → ∀ s1 : St, WF s1 → (∀ k', k' ≠ k → s1.snd.get? k' = s.snd.get? k') →
        (∀ v, s1.snd.get? k = some v → now < v.deadline) →
        ∃ s' nw' o', tickSnd cfg now ks s1 nw1 (o ++ (tickSndOne cfg now buf).2.1) = (s', nw', o', none) ∧
          SndLoop now (k :: ks) s s' nw' := by
      intro nw1 hnw1 s1 w1 oth fut
      obtain ⟨s', nw', o', e, l⟩ := ih s1 nw1 (o ++ (tickSndOne cfg now buf).2.1) hks'
        (fun k' hk' => by rw [oth k' (fun h => hkn (h ▸ hk'))]; exact hpres k' (List.mem_cons_of_mem _ hk')) w1 hnw1
      refine ⟨s', nw', o', e, l.wf, l.wake, fun k' hk' => ?other, fun k' v hv hk' => ?future, fun k' hk' => ?noNew⟩
      case other =>
        rw [l.other k' (fun h => hk' (List.mem_cons_of_mem _ h)), oth k' (fun h => hk' (h ▸ List.mem_cons_self ..))]
      case future =>
        rcases List.mem_cons.mp hk' with rfl | hk'
        · exact fut v (l.other _ hkn ▸ hv)
        · exact l.future k' v hv hk'
      case noNew =>
        by_cases hkk : k' = k
        · rw [hkk, hg]; rfl
        · rw [← oth k' hkk]; exact l.noNew k' hk'
    cases hr : (tickSndOne cfg now buf).1 with
    | some b' =>
      exact rest _ hnw' _ (wf_set_snd s k b' hwf (h1 b' hr).1) (fun k' hne => PyDict.get?_set_ne _ _ _ _ hne)
        (fun v hv => by rw [show _ = some b' from PyDict.get?_set_self s.snd k b'] at hv; cases hv; exact (h1 b' hr).2)
    | none =>
      exact rest _ hnw' _ ⟨hwf.rk, PyDict.keys_erase_nodup _ _ hwf.sk, hwf.rcv, PyDict.all_erase _ _ _ hwf.snd⟩
        (fun k' hne => PyDict.get?_erase_ne _ _ _ hne)
        (fun v hv => by rw [show _ = none from PyDict.get?_erase_self s.snd k] at hv; cases hv)

end J1939.Dll21
