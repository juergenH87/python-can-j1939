/-
  Arithmetic normal forms of the DTC / DM22 codecs (generated leaves).  Property statements: Props/C16.lean.
-/
import J1939.Gen.Codec
import J1939.Lemmas.Bits
import J1939.Lemmas.Radix
import J1939.Model.Ref
namespace J1939.Lemmas
open J1939 J1939.Gen J1939.Bits J1939.Radix

theorem and_458752 (x : Nat) : x &&& 458752 = (x / 65536 % 8) <<< 16 := by
  rw [show 458752 = 7 <<< 16 from rfl, and_shl, shr_16, and_7]

theorem and_224 (x : Nat) : x &&& 224 = (x / 32 % 8) <<< 5 := by
  rw [show 224 = 7 <<< 5 from rfl, and_shl, shr_5, and_7]

theorem dtc_or_val (s0 s1 f o : Nat) (h0 : s0 < 65536) (hf : f < 32) (h1 : s1 < 8) :
    s0 ||| s1 <<< 21 ||| f <<< 16 ||| o <<< 24 = val [65536, 32, 8, 128, 2] [s0, f, s1, o, 0] := by
  -- the FMI (bits 16..20) is or-ed in after the SPN's high bits (21..23): swap the two, then every field lies above all before it
  rw [or_right_comm s0, or_shl _ _ 16 h0, or_shl _ _ 21 (by omega), or_shl _ _ 24 (by omega)]
  simp only [val]; omega

/-- the top digit is the conversion mode, which `ofFields` leaves 0 -/
theorem dtc_pack_fields (spn fmi oc : Nat) :
    (DTC.ofFields spn fmi oc).dtc = val [65536, 32, 8, 128, 2] [spn % 65536, fmi % 32, spn / 65536 % 8, oc % 128, 0] := by
  simp only [DTC.ofFields, and_65535, and_458752, and_31, and_127, ← Nat.shiftLeft_add, Nat.reduceAdd]
  exact dtc_or_val _ _ _ _ (Nat.mod_lt _ (by decide)) (Nat.mod_lt _ (by decide)) (Nat.mod_lt _ (by decide))

/-- the same number in bytes: the low word splits in two, the SPN's high bits sit above the FMI in the third byte -/
theorem dtc_val_bytes (a0 a1 f s1 o : Nat) :
    val [65536, 32, 8, 128, 2] [a0 + 256 * a1, f, s1, o, 0] = val (List.replicate 4 256) [a0, a1, s1 * 32 + f, o] := by
  simp only [List.replicate, val]; omega

/-- the packed value is the little-endian number of the four bytes SAE J1939-73 prescribes -/
theorem dtc_pack_bytes (spn fmi oc : Nat) :
    (DTC.ofFields spn fmi oc).dtc = val (List.replicate 4 256) (Ref.dtcBytes spn fmi oc) := by
  rw [dtc_pack_fields, show spn % 65536 = spn % 256 + 256 * (spn / 256 % 256) from Nat.mod_mul (a := 256) (b := 256), dtc_val_bytes]
  rfl

theorem dtcBytes_below (spn fmi oc : Nat) : Below (Ref.dtcBytes spn fmi oc) (List.replicate 4 256) := by
  simp only [Ref.dtcBytes, List.replicate, Below, and_true]; omega

theorem dtc_pack_lt (spn fmi oc : Nat) : (DTC.ofFields spn fmi oc).dtc < 2^32 := by
  rw [dtc_pack_bytes]; exact val_lt _ _ (dtcBytes_below spn fmi oc)

theorem dtc_unpack_eq (d : Nat) :
    DTC.ofDtc d = { dtc := d, spn := (d / 2097152 % 8) * 65536 + d % 65536, fmi := d / 65536 % 32, oc := d / 16777216 % 128,
                    cm := d / 2147483648 % 2 } := by
  simp only [DTC.ofDtc, and_65535, and_458752, and_31, and_127, and_1, shr, Nat.reducePow, Nat.div_div_eq_div_mul, Nat.reduceMul]
  rw [or_shl _ _ 16 (Nat.mod_lt _ (by decide)), Nat.add_comm]

theorem dtc_unpack_pack (spn fmi oc : Nat) :
    DTC.ofDtc (DTC.ofFields spn fmi oc).dtc =
      { dtc := (DTC.ofFields spn fmi oc).dtc, spn := spn % 524288, fmi := fmi % 32, oc := oc % 128, cm := 0 } := by
  have hd := digits_val [65536, 32, 8, 128, 2] [spn % 65536, fmi % 32, spn / 65536 % 8, oc % 128, 0]
    ⟨Nat.mod_lt _ (by decide), Nat.mod_lt _ (by decide), Nat.mod_lt _ (by decide), Nat.mod_lt _ (by decide), Nat.zero_lt_two, trivial⟩
  rw [← dtc_pack_fields] at hd
  simp only [digits, Nat.div_div_eq_div_mul, Nat.reduceMul, List.cons.injEq, and_true] at hd
  simp only [dtc_unpack_eq, hd]
  -- the SPN is put together again from its low word and its three high bits
  rw [Nat.mul_comm, Nat.add_comm, ← Nat.mod_mul]

theorem dm1_bytes_arith (v : Nat) :
    [Dm1.send_byte0 v, Dm1.send_byte1 v, Dm1.send_byte2 v, Dm1.send_byte3 v] = digits (List.replicate 4 256) v := by
  simp only [Dm1.send_byte0, Dm1.send_byte1, Dm1.send_byte2, Dm1.send_byte3, and_255, shr, Nat.reducePow, List.replicate, digits,
    Nat.div_div_eq_div_mul, Nat.reduceMul]

/-- DM22 carries the SPN and FMI as the first three bytes of a trouble code, whatever their values: both are masked -/
theorem dm22_data (pgn ctrl dest fmi spn : Nat) :
    (Dm22.send_request pgn ctrl dest fmi spn).data = [ctrl, 255, 255, 255, 255] ++ (Ref.dtcBytes spn fmi 0).take 3 := by
  simp only [Dm22.send_request, Py.set, and_255, and_31, and_224, shr, Nat.reducePow, Ref.dtcBytes, Nat.div_div_eq_div_mul,
    Nat.reduceMul, shl_or _ _ 5 (Nat.mod_lt fmi (by decide : 0 < 2^5))]
  rfl

end J1939.Lemmas
