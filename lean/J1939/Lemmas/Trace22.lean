/-
  A whole J1939-22 (FD.TP) reception: the segments of a message fed to the responder, then the end-of-message status.
  The frames are characterised by what the receive path extracts from them (session, segment number, payload), so the
  statements hold for the frames of ANY conforming originator; `Props/C02.lean` shows that the frames this stack
  builds are of that kind.
-/
import J1939.Lemmas.PyDict
import J1939.Lemmas.Step22
namespace J1939.Dll22
open J1939 J1939.Gen

/-- the deliveries to the application contained in an output list -/
def deliveries (o : List Out) : List (Nat × Nat × Nat × Nat × List Nat) :=
  o.filterMap (fun x => match x with | .notify p g sa d data => some (p, g, sa, d, data) | _ => none)

theorem deliveries_append (a b : List Out) : deliveries (a ++ b) = deliveries a ++ deliveries b :=
  List.filterMap_append

/-- one in-order FD.TP.DT segment at the responder changes the record of its session and nothing else: the payload
    bytes are appended (cut to the announced size once it is reached), the expected segment number advances, the CTS
    border and the deadline may move; nothing is delivered yet, nothing raises -/
theorem dt22_step (s : St) (now : Nat) (mid : MessageId) (dest : Nat) (f : List Nat) (r : Rcv) (session seg : Nat)
    (hlen : 4 < f.length) (hs : Tp22.dt_session f = session) (hg : Tp22.dt_segment f = seg) (hseg : seg ≠ 0)
    (hr : s.rcv.get? (Tp22.buffer_hash session mid.source_address dest) = some r) (hnext : r.nextPacket = seg)
    (hmr : dest ≠ Const.Addr.GLOBAL → (∃ b, r.ctsBorder = some b) ∧ ∃ m, r.maxRec = some m) :
    ∃ cb dl o, processDt s now mid dest f =
      { st := { s with rcv := s.rcv.set (Tp22.buffer_hash session mid.source_address dest)
                                { r with data := if (r.data ++ f.drop 4).length ≥ r.messageSize
                                                   then (r.data ++ f.drop 4).take r.messageSize else r.data ++ f.drop 4,
                                         nextPacket := seg + 1, ctsBorder := cb, deadline := dl } },
        outs := o } ∧
      deliveries o = [] ∧ (dest ≠ Const.Addr.GLOBAL → ∃ b, cb = some b) := by
  rw [processDt_inorder hlen hs hg hseg rfl hr hnext]
  dsimp only
  by_cases hfull : (r.data ++ f.drop 4).length ≥ r.messageSize
  · rw [if_pos hfull, if_pos hfull]
    cases dest != Const.Addr.GLOBAL <;> exact ⟨_, _, _, rfl, rfl, fun h => (hmr h).1⟩
  · rw [if_neg hfull, if_neg hfull]
    by_cases hd : dest = Const.Addr.GLOBAL
    · rw [if_neg (fun h => bne_iff_ne.1 h hd)]
      exact ⟨_, _, _, rfl, rfl, fun h => absurd hd h⟩
    · obtain ⟨⟨b, hb⟩, m, hm⟩ := hmr hd
      rw [if_pos (bne_iff_ne.2 hd), hb, hm]
      dsimp only
      by_cases hbd : seg ≥ b
      · rw [if_pos hbd]
        exact ⟨_, _, _, rfl, rfl, fun _ => ⟨_, rfl⟩⟩
      · rw [if_neg hbd]
        exact ⟨_, _, _, rfl, rfl, fun _ => ⟨_, rfl⟩⟩

/-- feed the FD.TP.DT frames of one session one after the other, each at its own time -/
def feedDt (s : St) (mid : MessageId) (dest : Nat) : List (Nat × List Nat) → St × List Out
  | [] => (s, [])
  | (now, f) :: fs =>
    let r := processDt s now mid dest f
    let q := feedDt r.st mid dest fs
    (q.1, r.outs ++ q.2)

/-- what the receive path must be able to extract from the frame of segment `k` (0-based) of `data`: the session
    number, the 1-based segment number, and as payload the k-th 60-byte chunk — followed, on the LAST segment only, by
    whatever the originator pads the frame with -/
structure SegFrame (data : List Nat) (session k : Nat) (f : List Nat) : Prop where
  len : 4 < f.length
  sess : Tp22.dt_session f = session
  seg : Tp22.dt_segment f = k + 1
  pay : ∃ pad, f.drop 4 = (data.drop (60 * k)).take 60 ++ pad ∧ (data.length ≤ 60 * (k + 1) ∨ pad = [])

theorem segFrames_tail {data : List Nat} {session j : Nat} {x : Nat × List Nat} {rest : List (Nat × List Nat)}
    (h : ∀ i (hi : i < (x :: rest).length), SegFrame data session (j + i) ((x :: rest)[i]).2) :
    ∀ i (hi : i < rest.length), SegFrame data session (j + 1 + i) (rest[i]).2 := by
  intro i hi
  have := h (i + 1) (Nat.succ_lt_succ hi)
  rwa [List.getElem_cons_succ, ← Nat.add_assoc, Nat.add_right_comm] at this

theorem num_segments_arith (size : Nat) : Tp22.num_segments size = (size + 59) / 60 := by
  unfold Tp22.num_segments Py.b2n
  by_cases h : size % 60 = 0
  · have : (size % 60 != 0) = false := by simp [h]
    simp only [this, Bool.false_eq_true, if_false]; omega
  · have : (size % 60 != 0) = true := by simpa using h
    simp only [this, if_true]; omega

theorem num_segments_pos (size : Nat) (h : 0 < size) : 0 < Tp22.num_segments size := by
  rw [num_segments_arith]; omega

theorem num_segments_le (size : Nat) : Tp22.num_segments size ≤ size := by
  rw [num_segments_arith]; omega

theorem seg_data (msg : List Nat) (session j : Nat) (f d : List Nat) (size : Nat) (hf : SegFrame msg session j f)
    (hd : d = msg.take (60 * j)) (hsize : size = msg.length) :
    (j + 1 < Tp22.num_segments msg.length →
      d ++ f.drop 4 = msg.take (60 * (j + 1)) ∧ (d ++ f.drop 4).length < size) ∧
    (j + 1 = Tp22.num_segments msg.length →
      (d ++ f.drop 4).length ≥ size ∧ (d ++ f.drop 4).take size = msg) := by
  subst hsize
  obtain ⟨pad, hpay, hpad⟩ := hf.pay
  have hn := num_segments_arith msg.length
  have e : d ++ f.drop 4 = msg.take (60 * (j + 1)) ++ pad := by
    rw [hd, hpay, ← List.append_assoc, Nat.mul_add_one, List.take_add]
  refine ⟨?_, ?_⟩
  · intro hj
    have hlt : 60 * (j + 1) < msg.length := by omega
    rw [e, hpad.resolve_left (Nat.not_le.2 hlt), List.append_nil]
    refine ⟨rfl, ?_⟩
    simp only [List.length_take]; omega
  · intro hj
    have hge : msg.length ≤ 60 * (j + 1) := by omega
    rw [e, List.take_of_length_le hge]
    exact ⟨by simp, by simp⟩

/-- RESPONDER TRACE (FD.TP): a receive record that holds the first `j` segments of `data`, fed the remaining segment
    frames in order (at arbitrary times), ends up holding exactly `data` — the last segment's padding is cut off — with
    nothing delivered yet and nothing raised -/
theorem feed22_accumulates (data : List Nat) (mid : MessageId) (dest session : Nat)
    (frames : List (Nat × List Nat)) : ∀ (j : Nat) (s : St) (r : Rcv), frames ≠ [] →
    j + frames.length = Tp22.num_segments data.length →
    (∀ i (h : i < frames.length), SegFrame data session (j + i) (frames[i]).2) →
    s.rcv.get? (Tp22.buffer_hash session mid.source_address dest) = some r →
    r.messageSize = data.length → r.nextPacket = j + 1 → r.data = data.take (60 * j) →
    (dest ≠ Const.Addr.GLOBAL → (∃ b, r.ctsBorder = some b) ∧ ∃ m, r.maxRec = some m) →
    deliveries (feedDt s mid dest frames).2 = [] ∧ (feedDt s mid dest frames).1.snd = s.snd ∧
    ∃ r', (feedDt s mid dest frames).1.rcv.get? (Tp22.buffer_hash session mid.source_address dest) = some r' ∧
      r'.data = data ∧ r'.messageSize = data.length ∧ r'.numSegments = r.numSegments ∧ r'.pgn = r.pgn := by
  induction frames with
  | nil => intro _ _ _ h; exact absurd rfl h
  | cons x rest ih =>
    obtain ⟨t, f⟩ := x
    intro j s r _ hj hframes hr hsize hnext hdata hmr
    have hf0 : SegFrame data session j f := hframes 0 (Nat.zero_lt_succ _)
    obtain ⟨cb, dl, o, hst, ho, hcb⟩ :=
      dt22_step s t mid dest f r session (j + 1) hf0.len hf0.sess hf0.seg (Nat.succ_ne_zero j) hr hnext hmr
    obtain ⟨hinner, hfinal⟩ := seg_data data session j f r.data _ hf0 hdata hsize
    rw [List.length_cons] at hj
    simp only [feedDt, hst]
    by_cases hlast : rest = []
    · -- the last segment: everything is there, the padding is cut off
      subst hlast
      obtain ⟨e1, e2⟩ := hfinal hj
      rw [if_pos e1, e2]
      exact ⟨by rw [feedDt, List.append_nil, ho], rfl, _, PyDict.get?_set_self _ _ _, rfl, hsize, rfl, rfl⟩
    · -- an inner segment: a full chunk, no padding, the message is not complete
      have hlen := List.length_pos_iff.2 hlast
      obtain ⟨e1, e2⟩ := hinner (by omega)
      rw [if_neg (Nat.not_le.2 e2), e1, deliveries_append, ho]
      exact ih (j + 1) _ { r with data := data.take (60 * (j + 1)), nextPacket := j + 1 + 1, ctsBorder := cb, deadline := dl } hlast
        (by omega) (segFrames_tail hframes) (PyDict.get?_set_self _ _ _) hsize rfl rfl (fun h => ⟨hcb h, (hmr h).2⟩)

/-- END OF MESSAGE: when the end-of-message status for the announced size and segment count arrives and the record
    holds exactly that many bytes, the message is handed up ONCE with the announced PGN and exactly those bytes, the
    record is removed, and (connection mode) the acknowledgement is sent -/
theorem eom22_delivers (cfg : Cfg) (s : St) (now : Nat) (mid : MessageId) (dest : Nat) (f : List Nat) (r : Rcv) (session : Nat)
    (hlen : 12 ≤ f.length) (hc : Tp22.cm_control f = Const.CM22.EOM_STATUS) (hs : Tp22.cm_session f = session)
    (hsz : Tp22.cm_size f = r.messageSize) (hn : Tp22.cm_segment f = r.numSegments)
    (hr : s.rcv.get? (Tp22.buffer_hash session mid.source_address dest) = some r) (hd : r.data.length = r.messageSize)
    (hsrc : mid.source_address ≠ Const.Addr.GLOBAL) :
    deliveries (processCm cfg s now mid dest f).outs = [(mid.priority, r.pgn, mid.source_address, dest, r.data)] ∧
    (processCm cfg s now mid dest f).err = none ∧
    (processCm cfg s now mid dest f).st.rcv.get? (Tp22.buffer_hash session mid.source_address dest) = none ∧
    (processCm cfg s now mid dest f).st.snd = s.snd := by
  rw [processCm_eoms ⟨hlen, hc, hs, hsz, hn, rfl, rfl⟩ rfl hsrc hr rfl rfl hd]
  refine ⟨?_, rfl, PyDict.get?_erase_self _ _, rfl⟩
  cases dest != Const.Addr.GLOBAL <;> rfl

end J1939.Dll22
