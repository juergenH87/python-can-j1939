/-
  The J1939-21 frame builders against the reference layouts of `Model/Ref.lean` (written from the standard's tables):
  the identifier, the data bytes of the five TP.CM frames, and the two multi-byte fields the receive path reads back.
-/
import J1939.Lemmas.Id21
import J1939.Lemmas.Bytes21
namespace J1939.Dll21
open J1939 J1939.Gen J1939.Bits

theorem pdu1_id_ref (prio pf da sa : Nat) (hp : prio < 8) (hpf : pf < 256) (hd : da < 256) (hs : sa < 256) :
    MessageId.can_id (MessageId.ofFields prio (PGN.value (PGN.ofFields 0 pf da)) sa) = Ref.canId prio (pf * 256 + da) sa := by
  rw [pdu1_id, Ref.canId, Nat.mod_eq_of_lt hp, Nat.mod_eq_of_lt hpf, Nat.mod_eq_of_lt hd, Nat.mod_eq_of_lt hs]

theorem rts_data (sa da prio pgn size n mx : Nat) : (Tp21.rts sa da prio pgn size n mx).data = Ref.tpRts size n mx pgn := by
  simp only [Tp21.rts, Ref.tpRts, Ref.pgnLE, Ref.le16, and_255, shr_8, shr_16]; rfl

theorem cts_data (sa da n nxt pgn : Nat) : (Tp21.cts sa da n nxt pgn).data = Ref.tpCts n nxt pgn := by
  simp only [Tp21.cts, Ref.tpCts, Ref.pgnLE, and_255, shr_8, shr_16]; rfl

theorem eom_ack_data (sa da size n pgn : Nat) : (Tp21.eom_ack sa da size n pgn).data = Ref.tpEomAck size n pgn := by
  simp only [Tp21.eom_ack, Ref.tpEomAck, Ref.pgnLE, Ref.le16, and_255, shr_8, shr_16]; rfl

theorem bam_data (sa prio pgn size n : Nat) : (Tp21.bam sa prio pgn size n).data = Ref.tpBam size n pgn := by
  simp only [Tp21.bam, Ref.tpBam, Ref.pgnLE, Ref.le16, and_255, shr_8, shr_16]; rfl

theorem abort_data (sa da reason pgn : Nat) : (Tp21.abort sa da reason pgn).data = Ref.tpAbort reason pgn := by
  simp only [Tp21.abort, Ref.tpAbort, Ref.pgnLE, and_255, shr_8, shr_16]; rfl

/-- the two multi-byte fields of the TP.CM layouts, whatever the other bytes: the 16-bit size in bytes 1–2 (RTS,
    EndOfMsgACK, BAM) and the 24-bit PGN in bytes 5–7 (all five) -/
theorem cm_size_ref (c size : Nat) (rest : List Nat) (hs : size < 65536) :
    Tp21.rts_size (c :: size % 256 :: size / 256 % 256 :: rest) = size := by
  rw [Tp21.rts_size]
  exact (le16_digits size).trans (Nat.mod_eq_of_lt hs)

theorem cm_pgn_ref (a b c d e pgn : Nat) (hp : pgn < 16777216) : Tp21.cm_pgn (a :: b :: c :: d :: e :: Ref.pgnLE pgn) = pgn := by
  rw [Tp21.cm_pgn]
  exact (le24_digits pgn).trans (Nat.mod_eq_of_lt hp)

end J1939.Dll21
