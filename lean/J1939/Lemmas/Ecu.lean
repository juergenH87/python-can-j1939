/-
  A remove loop over a snapshot is a filter (`removeLoop_eq_filter`); `remove_timer` as its instance (the `unsubscribe`
  instance is `c12_unsubscribe_all` in Props/C12.lean).
-/
import J1939.Model.Ecu
namespace J1939.Ecu

/-! ### `for x in list(l): if sel x: l.remove(x)` removes every selected element -/

theorem removeFirst_eq_eraseP {α} (p : α → Bool) (l : List α) : removeFirst p l = l.eraseP p := by
  induction l with
  | nil => rfl
  | cons x xs ih => rw [removeFirst, List.eraseP_cons, ih]; cases p x <;> rfl

/-- Any `loop` that runs like this: it iterates a snapshot and removes from the live list the first element that is the
    `same` as a selected one.  While the snapshot `suf` is a suffix of the live list and nothing before it is selected,
    the first element that is the `same` as the head `x` of the snapshot is `x` itself: anything equal to it would be
    selected too. -/
theorem removeLoop_eq_filter {α} (loop : List α → List α → List α) (sel : α → Bool) (same : α → α → Bool)
    (hnil : ∀ l, loop [] l = l)
    (hcons : ∀ x snap l, loop (x :: snap) l = if sel x then loop snap (removeFirst (same x) l) else loop snap l)
    (hrefl : ∀ x, same x x = true) (hsel : ∀ x y, same x y = true → sel y = sel x)
    (pre suf : List α) (hpre : ∀ y ∈ pre, sel y = false) :
    loop suf (pre ++ suf) = pre ++ suf.filter (fun t => !sel t) := by
  induction suf generalizing pre with
  | nil => exact hnil _
  | cons x suf ih =>
    rw [hcons]
    by_cases hx : sel x = true
    · have hne : ∀ y ∈ pre, ¬ same x y = true := fun y hy h =>
        Bool.false_ne_true ((hpre y hy).symm.trans ((hsel x y h).trans hx))
      rw [if_pos hx, removeFirst_eq_eraseP, List.eraseP_append_right _ hne, List.eraseP_cons_of_pos (hrefl x), ih pre hpre]
      simp [hx]
    · have := ih (pre ++ [x]) (List.forall_mem_append.mpr ⟨hpre, by simpa using hx⟩)
      simpa [hx] using this

theorem removeTimer_timers (c : Core) (cb : Nat) :
    (c.removeTimer cb).timers = c.timers.filter (fun t => t.cb != cb) :=
  removeLoop_eq_filter (removeTimerLoop cb) (fun t => t.cb == cb) Timer.sameContent (fun _ => rfl) (fun _ _ _ => rfl)
    (by simp [Timer.sameContent])
    (fun x y h => by simp only [Timer.sameContent, Bool.and_eq_true, beq_iff_eq] at h; rw [h.1.1.2]) [] c.timers (by simp)

end J1939.Ecu
