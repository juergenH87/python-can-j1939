/-
  Arithmetic normal forms of the generated identifier / PGN / NAME codecs, and the in-range predicates `MessageId.WF`,
  `PGN.WF`, `Name.WF` the development quantifies over.  The property statements are in Props/C15.lean.
-/
import J1939.Gen.Codec
import J1939.Model.Ref
import J1939.Lemmas.Bits
import J1939.Lemmas.Radix
namespace J1939.Lemmas
open J1939 J1939.Gen J1939.Bits J1939.Radix

def MessageId.WF (m : MessageId) : Prop :=
  m.priority < 8 ∧ m.parameter_group_number < 262144 ∧ m.source_address < 256

theorem ofFields_eq (p g s : Nat) :
    MessageId.ofFields p g s = { source_address := s % 256, parameter_group_number := g % 262144, priority := p % 8 } := by
  simp only [MessageId.ofFields, and_7, and_262143, and_255]

theorem ofFields_wf (p g s : Nat) : MessageId.WF (MessageId.ofFields p g s) := by
  rw [ofFields_eq]; exact ⟨Nat.mod_lt _ (by decide), Nat.mod_lt _ (by decide), Nat.mod_lt _ (by decide)⟩

theorem ofFields_of_lt (p g s : Nat) (hp : p < 8) (hg : g < 2^18) (hs : s < 256) :
    MessageId.ofFields p g s = { source_address := s, parameter_group_number := g, priority := p } := by
  rw [ofFields_eq, Nat.mod_eq_of_lt hp, Nat.mod_eq_of_lt hg, Nat.mod_eq_of_lt hs]

theorem can_id_arith (m : MessageId) (h : MessageId.WF m) :
    MessageId.can_id m = m.priority * 67108864 + m.parameter_group_number * 256 + m.source_address :=
  -- the shifts 26 = 18 + 8, 8 and the powers 2^26, 2^8 of the statement agree with the lemma's by evaluation of literals
  shl_or_shl_or m.priority m.parameter_group_number m.source_address 18 8 h.2.1 h.2.2

theorem can_id_val (m : MessageId) (h : MessageId.WF m) :
    MessageId.can_id m = val [256, 262144, 8] [m.source_address, m.parameter_group_number, m.priority] := by
  rw [can_id_arith m h]; simp only [val]; omega

theorem ofCanId_eq (c : Nat) :
    MessageId.ofCanId c = { source_address := c % 256, parameter_group_number := c / 256 % 262144, priority := c / 67108864 % 8 } := by
  simp only [MessageId.ofCanId, and_7, and_262143, and_255, shr_8, shr_26]

theorem ofCanId_wf (c : Nat) : MessageId.WF (MessageId.ofCanId c) := by
  rw [ofCanId_eq]; exact ⟨Nat.mod_lt _ (by decide), Nat.mod_lt _ (by decide), Nat.mod_lt _ (by decide)⟩

theorem ofCanId_can_id (m : MessageId) (h : MessageId.WF m) : MessageId.ofCanId (MessageId.can_id m) = m := by
  have hd := digits_val [256, 262144, 8] [m.source_address, m.parameter_group_number, m.priority] ⟨h.2.2, h.2.1, h.1, trivial⟩
  rw [← can_id_val m h] at hd
  simp only [digits, Nat.div_div_eq_div_mul, Nat.reduceMul, List.cons.injEq, and_true] at hd
  rw [ofCanId_eq, hd.1, hd.2.1, hd.2.2]

/-- … and the other way round the identifier keeps its low 29 bits -/
theorem can_id_ofCanId (c : Nat) : MessageId.can_id (MessageId.ofCanId c) = c % 536870912 := by
  have hv : _ = c % 536870912 := val_digits [256, 262144, 8] c
  rw [can_id_val _ (ofCanId_wf c), ofCanId_eq]
  simpa only [digits, Nat.div_div_eq_div_mul, Nat.reduceMul] using hv

def PGN.WF (p : PGN) : Prop := p.data_page < 2 ∧ p.pdu_format < 256 ∧ p.pdu_specific < 256

theorem pgn_ofFields_eq (dp pf ps : Nat) :
    PGN.ofFields dp pf ps = { data_page := dp % 2, pdu_format := pf % 256, pdu_specific := ps % 256 } := by
  simp only [PGN.ofFields, and_1, and_255]

theorem pgn_ofFields_wf (dp pf ps : Nat) : PGN.WF (PGN.ofFields dp pf ps) := by
  rw [pgn_ofFields_eq]; exact ⟨Nat.mod_lt _ (by decide), Nat.mod_lt _ (by decide), Nat.mod_lt _ (by decide)⟩

theorem pgn_value_arith (p : PGN) (h : PGN.WF p) :
    PGN.value p = p.data_page * 65536 + p.pdu_format * 256 + p.pdu_specific :=
  shl_or_shl_or p.data_page p.pdu_format p.pdu_specific 8 8 h.2.1 h.2.2

theorem pgn_value_val (p : PGN) (h : PGN.WF p) : PGN.value p = val [256, 256, 2] [p.pdu_specific, p.pdu_format, p.data_page] := by
  rw [pgn_value_arith p h]; simp only [val]; omega

theorem pgn_value_lt (p : PGN) (h : PGN.WF p) : PGN.value p < 16777216 := by
  rw [pgn_value_arith p h]
  obtain ⟨a, b, c⟩ := h
  omega

theorem pgn_from_mid_eq (m : MessageId) :
    PGN.from_message_id m = { data_page := m.parameter_group_number / 65536 % 2,
                              pdu_format := m.parameter_group_number / 256 % 256,
                              pdu_specific := m.parameter_group_number % 256 } := by
  simp only [PGN.from_message_id, and_1, and_255, shr_8, shr_16]

theorem pgn_from_mid_wf (m : MessageId) : PGN.WF (PGN.from_message_id m) := by
  rw [pgn_from_mid_eq]; exact ⟨Nat.mod_lt _ (by decide), Nat.mod_lt _ (by decide), Nat.mod_lt _ (by decide)⟩

/-- the PGN taken from an identifier drops the extended data page, bit 17 of the identifier's 18-bit field -/
theorem pgn_value_from_mid (m : MessageId) : PGN.value (PGN.from_message_id m) = m.parameter_group_number % 131072 := by
  have hv := val_digits [256, 256, 2] m.parameter_group_number
  simp only [digits, Nat.div_div_eq_div_mul, Nat.reduceMul] at hv
  rw [pgn_value_val _ (pgn_from_mid_wf m), pgn_from_mid_eq, hv]
  rfl

/-! ### NAME: a ten-digit numeral in the radices of its fields; its eight bytes are the same number in radix 256 -/

/-- the range checks of `Name.__init__`, plus the reserved bit the constructor always clears -/
def Name.WF (n : Name) : Prop :=
  n.arbitrary_address_capable < 2 ∧ n.industry_group < 8 ∧ n.vehicle_system_instance < 16 ∧ n.vehicle_system < 128 ∧
  n.reserved_bit = 0 ∧ n.function < 256 ∧ n.function_instance < 32 ∧ n.ecu_instance < 8 ∧
  n.manufacturer_code < 2048 ∧ n.identity_number < 2097152

/-- the widths of SAE J1939-81, from bit 0 up -/
def Name.radices : List Nat := [21, 11, 3, 5, 8, 1, 7, 4, 3, 1].map (2 ^ ·)

def Name.digits (n : Name) : List Nat :=
  [n.identity_number, n.manufacturer_code, n.ecu_instance, n.function_instance, n.function, n.reserved_bit,
   n.vehicle_system, n.vehicle_system_instance, n.industry_group, n.arbitrary_address_capable]

theorem name_radices_prod : Name.radices.prod = 2^64 := by decide

theorem name_below (n : Name) (h : Name.WF n) : Below (Name.digits n) Name.radices := by
  obtain ⟨h1, h2, h3, h4, h5, h6, h7, h8, h9, h10⟩ := h
  exact ⟨h10, h9, h8, h7, h6, h5 ▸ Nat.zero_lt_two, h4, h3, h2, h1, trivial⟩

/-- `simp only [Name.value]` does not come back; the definition is unfolded by `rfl` against its written-out form -/
theorem name_value_shifts (n : Name) :
    Name.value n = n.identity_number + n.manufacturer_code <<< 21 + n.ecu_instance <<< 32
      + n.function_instance <<< 35 + n.function <<< 40 + n.reserved_bit <<< 48
      + n.vehicle_system <<< 49 + n.vehicle_system_instance <<< 56
      + n.industry_group <<< 60 + n.arbitrary_address_capable <<< 63 := rfl

theorem name_value_val (n : Name) : Name.value n = val Name.radices (Name.digits n) := by
  rw [name_value_shifts]
  simp only [Name.radices, List.map, Name.digits, val, shl, Nat.reducePow]
  omega

theorem name_value_lt (n : Name) (h : Name.WF n) : Name.value n < 2^64 := by
  rw [name_value_val, ← name_radices_prod]; exact val_lt _ _ (name_below n h)

/-- the reserved digit of a NAME numeral weighs 2^48, the product of the five radices below it -/
theorem name_val_reserved (a b c d e r f g h i : Nat) :
    val Name.radices [a, b, c, d, e, r, f, g, h, i] = val Name.radices [a, b, c, d, e, 0, f, g, h, i] + 2^48 * r :=
  val_digit (Name.radices.take 5) [a, b, c, d, e] 2 r (Name.radices.drop 6) [f, g, h, i] rfl

theorem name_digits (v : Nat) : digits Name.radices v =
    [Ref.field v 0 21, Ref.field v 21 11, Ref.field v 32 3, Ref.field v 35 5, Ref.field v 40 8, Ref.field v 48 1,
     Ref.field v 49 7, Ref.field v 56 4, Ref.field v 60 3, Ref.field v 63 1] := by
  simp only [Name.radices, List.map, digits, Ref.field, Nat.div_div_eq_div_mul, ← Nat.pow_add, Nat.reduceAdd, Nat.pow_zero, Nat.div_one]

theorem name_digits_value (n : Name) (h : Name.WF n) : digits Name.radices (Name.value n) = Name.digits n := by
  rw [name_value_val]; exact digits_val _ _ (name_below n h)

theorem name_ofValue_eq (v : Nat) :
    Name.ofValue v = { arbitrary_address_capable := Ref.field v 63 1, industry_group := Ref.field v 60 3,
                       vehicle_system_instance := Ref.field v 56 4, vehicle_system := Ref.field v 49 7, reserved_bit := 0,
                       function := Ref.field v 40 8, function_instance := Ref.field v 35 5, ecu_instance := Ref.field v 32 3,
                       manufacturer_code := Ref.field v 21 11, identity_number := Ref.field v 0 21 } := by
  simp only [Name.ofValue, Ref.field, and_mask, shr, and_1, Nat.pow_zero, Nat.div_one, Nat.pow_one]

/-- value ∘ ofValue keeps the low 64 bits and clears the reserved one -/
theorem name_value_ofValue (v : Nat) : Name.value (Name.ofValue v) = v % 2^64 - (v / 2^48 % 2) * 2^48 := by
  have hv := val_digits Name.radices v
  rw [name_radices_prod, name_digits, name_val_reserved, Nat.mul_comm (2^48)] at hv
  rw [name_value_val, name_ofValue_eq]
  exact Nat.eq_sub_of_add_eq hv

theorem name_ofBytes_eq (b : List Nat) : Name.ofBytes b = Name.ofValue (Py.fromBytesLE b) := rfl

theorem field_lt (v pos width : Nat) : Ref.field v pos width < 2^width := Nat.mod_lt _ (Nat.two_pow_pos width)

theorem name_ofValue_wf (v : Nat) : Name.WF (Name.ofValue v) := by
  rw [name_ofValue_eq]
  exact ⟨field_lt v 63 1, field_lt v 60 3, field_lt v 56 4, field_lt v 49 7, rfl, field_lt v 40 8, field_lt v 35 5, field_lt v 32 3,
    field_lt v 21 11, field_lt v 0 21⟩

/-- the shape of the constructor's range checks -/
theorem in_range_iff (x k : Nat) : ¬(x < 0 ∨ x > k) ↔ x < k + 1 := by omega

theorem name_ofFields_eq_some (a ig vsi vs f fi e m i : Nat) (n : Name) :
    Name.ofFields a ig vsi vs f fi e m i = some n ↔
      n = { arbitrary_address_capable := a, industry_group := ig, vehicle_system_instance := vsi, vehicle_system := vs,
            reserved_bit := 0, function := f, function_instance := fi, ecu_instance := e, manufacturer_code := m,
            identity_number := i } ∧ Name.WF n := by
  simp only [Name.ofFields, Option.ite_none_left_eq_some, Option.some.injEq, Bool.or_eq_true, decide_eq_true_eq,
    Nat.reducePow, Nat.reduceSub, in_range_iff, Nat.reduceAdd]
  constructor
  · rintro ⟨h1, h2, h3, h4, h5, h6, h7, h8, h9, rfl⟩
    exact ⟨rfl, h1, h2, h3, h4, rfl, h5, h6, h7, h8, h9⟩
  · rintro ⟨rfl, h1, h2, h3, h4, -, h5, h6, h7, h8, h9⟩
    exact ⟨h1, h2, h3, h4, h5, h6, h7, h8, h9, rfl⟩

/-- eight little-endian bytes of a value -/
def le64 (v : Nat) : List Nat :=
  [v % 256, v / 256 % 256, v / 65536 % 256, v / 16777216 % 256, v / 4294967296 % 256, v / 1099511627776 % 256,
   v / 281474976710656 % 256, v / 72057594037927936 % 256]

theorem le64_length (v : Nat) : (le64 v).length = 8 := rfl

theorem le64_eq_digits (v : Nat) : le64 v = digits (List.replicate 8 256) v := by
  simp only [List.replicate, digits, Nat.div_div_eq_div_mul, Nat.reduceMul]; rfl

/-- `Py.fromBytesLE` of an eight-element list unfolds to its `val` in `List.replicate 8 256` -/
theorem fromBytesLE_le64 (v : Nat) (h : v < 2^64) : Py.fromBytesLE (le64 v) = v := by
  have hv := val_digits (List.replicate 8 256) v
  rw [← le64_eq_digits, show (List.replicate 8 256).prod = 2^64 by decide, Nat.mod_eq_of_lt h] at hv
  exact hv

end J1939.Lemmas
