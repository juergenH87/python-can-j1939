/-
  Segmentation and reassembly of J1939-21 transport messages (7 data bytes per TP.DT).
-/
import J1939.Model.Dll21
import J1939.Model.Ref
namespace J1939.Dll21
open J1939 J1939.Gen

/-- the 7 payload bytes of packet `k` (0-based): the data bytes, 0xFF padding at the end of the message -/
def payload (data : List Nat) (k : Nat) : List Nat := Py.pad ((data.drop (k * 7)).take 7) 7 255

theorem payload_length (data : List Nat) (k : Nat) : (payload data k).length = 7 := by
  simp only [payload, Py.pad, List.length_append, List.length_replicate, List.length_take, List.length_drop]
  omega

theorem chunk_eq (data : List Nat) (k : Nat) : chunk data k = (k + 1) :: payload data k := by
  simp only [chunk, payload, Py.insert, List.take_zero, List.drop_zero, List.nil_append, List.cons.injEq, true_and]
  split
  · next h => rw [Py.pad, List.length_take, Nat.min_eq_left (by omega), Nat.sub_self, List.replicate_zero, List.append_nil]
  · next h => rw [List.take_of_length_le (by omega)]

theorem chunk_length (data : List Nat) (k : Nat) : (chunk data k).length = 8 := by
  rw [chunk_eq, List.length_cons, payload_length]

theorem chunk_drop_one (data : List Nat) (k : Nat) : (chunk data k).drop 1 = payload data k := by
  rw [chunk_eq]; rfl

theorem chunk_head (data : List Nat) (k : Nat) : Py.idx (chunk data k) 0 = k + 1 := by
  rw [chunk_eq]; rfl

/-- the chunk is the SAE TP.DT layout: 1-based sequence number, 7 data bytes, 0xFF padding -/
theorem chunk_ref (data : List Nat) (k : Nat) : chunk data k = Ref.tpDt (k + 1) ((data.drop (k * 7)).take 7) := by
  rw [chunk_eq]; rfl

/-- all payloads of packets `0 … n-1`, concatenated -/
def payloads (data : List Nat) (n : Nat) : List Nat := (List.range n).flatMap (payload data)

theorem payloads_snoc (data : List Nat) (j : Nat) : payloads data (j + 1) = payloads data j ++ payload data j := by
  simp [payloads, List.range_succ, List.flatMap_append]

theorem payloads_eq (data : List Nat) (n : Nat) :
    payloads data n = data.take (7 * n) ++ List.replicate (7 * n - data.length) 255 := by
  induction n with
  | zero => simp [payloads]
  | succ n ih =>
    rw [payloads_snoc, ih, payload, Py.pad, List.length_take, List.length_drop, Nat.mul_comm n 7]
    by_cases h : data.length ≤ 7 * n
    · -- the message ended before this packet: seven more padding bytes
      rw [Nat.sub_eq_zero_of_le h, Nat.min_zero, List.drop_of_length_le h, List.take_nil, List.nil_append, List.append_assoc,
        List.replicate_append_replicate, List.take_of_length_le h, List.take_of_length_le (Nat.le_trans h (by omega))]
      congr 2; omega
    · -- the packet takes the next bytes of the message and pads what is missing of seven
      rw [Nat.sub_eq_zero_of_le (by omega), List.replicate_zero, List.append_nil, ← List.append_assoc, ← List.take_add]
      congr 2; omega

theorem payloads_length (data : List Nat) (n : Nat) : (payloads data n).length = 7 * n := by
  rw [payloads_eq, List.length_append, List.length_take, List.length_replicate]; omega

theorem payloads_take (data : List Nat) (n : Nat) (h : data.length ≤ 7 * n) : (payloads data n).take data.length = data := by
  rw [payloads_eq, List.take_of_length_le h, List.take_left']
  rfl

theorem num_packets_eq (len : Nat) : Tp21.num_packets len = (len + 6) / 7 := by
  simp only [Tp21.num_packets, beq_iff_eq]
  split <;> omega

theorem num_packets_spec (len : Nat) : len ≤ 7 * Tp21.num_packets len ∧ (0 < len → 7 * (Tp21.num_packets len - 1) < len) := by
  rw [num_packets_eq]; omega

theorem num_packets_pos (len : Nat) (h : 0 < len) : 0 < Tp21.num_packets len := by
  rw [num_packets_eq]; omega

/-- fewer than all packets never reach the announced size: the completion test cannot fire early -/
theorem partial_too_short (len k : Nat) (hlen : 0 < len) (hk : k < Tp21.num_packets len) : 7 * k < len := by
  have := (num_packets_spec len).2 hlen
  omega

/-- a message fits the protocol (≤ 255 packets) iff it has at most 1785 bytes -/
theorem num_packets_le_255 (len : Nat) : Tp21.num_packets len ≤ 255 ↔ len ≤ 1785 := by
  rw [num_packets_eq]; omega

end J1939.Dll21
