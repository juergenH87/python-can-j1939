/-
  J1939-22: what a received frame can do to the state.  `notify` changes at most the receive record at one session key
  or rewrites the send record at one session key, in one of the ways listed by `SndRx`; every "no received frame can …"
  fact about the layer (pools, other sessions, key snapshots, `WF`, pool conservation) is a case analysis on `Rx`.
-/
import J1939.Model.Dll22
import J1939.Lemmas.PyDict
import J1939.Lemmas.Cond
namespace J1939.Dll22
open J1939 J1939.Gen

/-- what an FD.TP.CM frame does to the send record it addresses: hold (CTS with 0 segments), CTS, end-of-message
    acknowledgement, abort of a record that waits for a CTS (`cts.h`: what `WF` asks of a record that is sending — the
    chunk index the pass will use is at least -1, Python's last element) -/
inductive SndRx (now : Nat) (b : Snd) : Snd → Prop
  | hold : SndRx now b { b with deadline := now + Const.T22.Th }
  | cts (nxt w : Int) (h : -1 ≤ nxt) :
      SndRx now b { b with next := nxt, waitOn := some w, state := S_SENDING_RTS_CTS, deadline := now }
  | ack : SndRx now b { b with state := S_EOM_ACK_RECEIVED, deadline := now }
  | abort (h : b.state = S_WAITING_CTS) : SndRx now b { b with state := S_FINISHED, deadline := now }

/-- `t` is `s` after a frame of session number `i` from `src` to `dest`: nothing; the inbound record (i, src, dest) written
    (re-armed, or keeping the deadline it had) or removed; or the outbound record (i, dest, src) rewritten — the latter
    never by a frame from the global address (repair of D29) -/
inductive Rx (now i src dest : Nat) (s : St) : St → Prop
  | same : Rx now i src dest s s
  | rcvSet (r : Rcv)
      (h : now < r.deadline ∨ ∃ r0, s.rcv.get? (Tp22.buffer_hash i src dest) = some r0 ∧ r.deadline = r0.deadline) :
      Rx now i src dest s { s with rcv := s.rcv.set (Tp22.buffer_hash i src dest) r }
  | rcvErase : Rx now i src dest s { s with rcv := s.rcv.erase (Tp22.buffer_hash i src dest) }
  | snd (b b' : Snd) (hsrc : src ≠ Const.Addr.GLOBAL) (hb : s.snd.get? (Tp22.buffer_hash i dest src) = some b)
      (h : SndRx now b b') : Rx now i src dest s { s with snd := s.snd.set (Tp22.buffer_hash i dest src) b' }

theorem processCm_rx (cfg : Cfg) (s : St) (now : Nat) (mid : MessageId) (dest : Nat) (data : List Nat) :
    Rx now (Tp22.cm_session data) mid.source_address dest s (processCm cfg s now mid dest data).st := by
  -- for the `omega`s below, which see the timeouts as atoms
  have T1 : 0 < Const.T22.T1 := by decide
  have T2 : 0 < Const.T22.T2 := by decide
  unfold processCm
  dsimp only
  generalize Tp22.cm_session data = i
  -- too short, or from the global address: ignored
  refine ite_ind .same (ite_ind' (fun _ => .same) fun hsrc => ?_)
  replace hsrc : mid.source_address ≠ Const.Addr.GLOBAL := by simpa using hsrc
  -- by control byte: RTS, CTS, end-of-message status, end-of-message acknowledgement, BAM, abort, anything else
  refine ite_ind ?rts (ite_ind ?cts (ite_ind ?eoms (ite_ind ?eoma (ite_ind ?bam (ite_ind ?abort .same)))))
  case rts => exact ite_ind .same (.rcvSet _ (.inl (by show now < now + _; omega)))
  case cts =>
    cases hb : s.snd.get? (Tp22.buffer_hash i dest mid.source_address) with
    | none => exact .same
    | some b => exact ite_ind (.snd b _ hsrc hb .hold) (.snd b _ hsrc hb (.cts _ _ (by omega)))
  case eoms =>
    cases s.rcv.get? (Tp22.buffer_hash i mid.source_address dest) with
    | none => exact .same
    | some r => exact .rcvErase
  case eoma =>
    cases hb : s.snd.get? (Tp22.buffer_hash i dest mid.source_address) with
    | none => exact .same
    | some b => exact .snd b _ hsrc hb .ack
  case bam => exact ite_ind .rcvErase (.rcvSet _ (.inl (by show now < now + _; omega)))
  case abort =>
    cases hb : s.snd.get? (Tp22.buffer_hash i dest mid.source_address) with
    | none => exact .same
    | some b => exact ite_ind' (fun h => .snd b _ hsrc hb (.abort (by simpa using h))) fun _ => .same

theorem processDt_rx (s : St) (now : Nat) (mid : MessageId) (dest : Nat) (data : List Nat) :
    Rx now (Tp22.dt_session data) mid.source_address dest s (processDt s now mid dest data).st := by
  have T1 : 0 < Const.T22.T1 := by decide
  have T2 : 0 < Const.T22.T2 := by decide
  unfold processDt
  dsimp only
  generalize Tp22.dt_session data = i
  -- too short, or segment number 0: ignored
  refine ite_ind .same (ite_ind .same ?_)
  cases hr : s.rcv.get? (Tp22.buffer_hash i mid.source_address dest) with
  | none => exact .same
  | some r =>
    have keep (r' : Rcv) (h : r'.deadline = r.deadline) := Rx.rcvSet (now := now) r' (.inr ⟨r, hr, h⟩)
    have arm (r' : Rcv) (h : now < r'.deadline) :=
      Rx.rcvSet (i := i) (src := mid.source_address) (dest := dest) (s := s) r' (.inl h)
    -- out of order: ignored; the message is complete; connection mode; broadcast
    refine ite_ind .same (ite_ind ?full (ite_ind ?conn (arm _ (by show now < now + _; omega))))
    case full =>
      -- the re-arming conditional sits inside the record written
      cases dest != Const.Addr.GLOBAL with
      | true => exact arm _ (by show now < now + _; omega)
      | false => exact keep _ rfl
    case conn =>
      cases r.ctsBorder with
      | none => exact keep _ rfl
      | some border =>
        cases r.maxRec with
        | none => exact keep _ rfl
        | some mr => exact ite_ind (arm _ (by show now < now + _; omega)) (arm _ (by show now < now + _; omega))

theorem notify_rx (cfg : Cfg) (s : St) (now : Nat) (acc : Nat → Bool) (canId : Nat) (data : List Nat) :
    ∃ i, Rx now i (MessageId.ofCanId canId).source_address (PGN.from_message_id (MessageId.ofCanId canId)).pdu_specific s
      (notify cfg s now acc canId data).st := by
  have same : ∃ i, Rx now i (MessageId.ofCanId canId).source_address
      (PGN.from_message_id (MessageId.ofCanId canId)).pdu_specific s s := ⟨0, .same⟩
  have br {c : Prop} [Decidable c] {a b : Res}
      (ha : ∃ i, Rx now i (MessageId.ofCanId canId).source_address (PGN.from_message_id (MessageId.ofCanId canId)).pdu_specific s a.st)
      (hb : ∃ i, Rx now i (MessageId.ofCanId canId).source_address (PGN.from_message_id (MessageId.ofCanId canId)).pdu_specific s b.st) :
      ∃ i, Rx now i (MessageId.ofCanId canId).source_address (PGN.from_message_id (MessageId.ofCanId canId)).pdu_specific s
        (if c then a else b).st := ite_ind (P := fun t => ∃ i, Rx now i _ _ s t) (g := Res.st) ha hb
  unfold notify
  dsimp only
  -- PDU2, not for us, multi-PG, address claim, request: nothing; the two FD transport PGNs; TP.CM, TP.DT, anything else: nothing
  exact br same (br same (br same (br same (br same (br ⟨_, processCm_rx ..⟩ (br ⟨_, processDt_rx ..⟩ (br same (br same same))))))))

namespace Rx
variable {now i src dest : Nat} {s t : St}

theorem pools (h : Rx now i src dest s t) : t.rtsPool = s.rtsPool ∧ t.bamPool = s.bamPool := by
  cases h <;> exact ⟨rfl, rfl⟩

theorem mpg (h : Rx now i src dest s t) : t.mpg = s.mpg := by
  cases h <;> rfl

theorem rcv_get? (h : Rx now i src dest s t) (k : Nat) (hk : k ≠ Tp22.buffer_hash i src dest) : t.rcv.get? k = s.rcv.get? k := by
  cases h with
  | same | snd => rfl
  | rcvSet => exact PyDict.get?_set_ne _ _ _ _ hk
  | rcvErase => exact PyDict.get?_erase_ne _ _ _ hk

theorem snd_get? (h : Rx now i src dest s t) (k : Nat) (hk : k ≠ Tp22.buffer_hash i dest src) : t.snd.get? k = s.snd.get? k := by
  cases h with
  | same | rcvSet | rcvErase => rfl
  | snd => exact PyDict.get?_set_ne _ _ _ _ hk

theorem snd_keys (h : Rx now i src dest s t) : t.snd.keys = s.snd.keys := by
  cases h with
  | same | rcvSet | rcvErase => rfl
  | snd b b' _ hb => exact PyDict.keys_set_of_get? _ _ _ _ hb

end Rx
end J1939.Dll22
