/-
  Identifiers of PDU1 frames, for both data link layers and the CAs (TP 236/235, FD.TP 77/78, multi-PG 37, request 234,
  address claim 238): what the receive path parses out of the identifier the builders compose, and the PGN value `notify`
  dispatches on.
-/
import J1939.Lemmas.Codec
namespace J1939.Dll21
open J1939 J1939.Gen J1939.Lemmas J1939.Bits

theorem pdu1_pgn (pf da : Nat) : PGN.value (PGN.ofFields 0 pf da) = pf % 256 * 256 + da % 256 := by
  rw [pgn_value_arith _ (pgn_ofFields_wf _ _ _), pgn_ofFields_eq]
  simp only [Nat.zero_mod, Nat.zero_mul, Nat.zero_add]

theorem pdu1_id (prio pf da sa : Nat) :
    MessageId.can_id (MessageId.ofFields prio (PGN.value (PGN.ofFields 0 pf da)) sa)
      = (prio % 8) * 67108864 + ((pf % 256) * 256 + da % 256) * 256 + sa % 256 := by
  rw [can_id_arith _ (ofFields_wf _ _ _), ofFields_eq, pdu1_pgn]
  simp only
  omega

theorem tp_id_parse (prio pf da sa : Nat) (hp : prio < 8) (hpf : pf < 240) (hda : da < 256) (hsa : sa < 256) :
    let mid := MessageId.ofCanId (MessageId.can_id (MessageId.ofFields prio (PGN.value (PGN.ofFields 0 pf da)) sa))
    mid.source_address = sa ∧ mid.priority = prio ∧
    PGN.from_message_id mid = { data_page := 0, pdu_format := pf, pdu_specific := da } := by
  intro mid
  have hm : mid = { source_address := sa, parameter_group_number := pf * 256 + da, priority := prio } := by
    simp only [mid]
    rw [ofCanId_can_id _ (ofFields_wf _ _ _), pdu1_pgn, Nat.mod_eq_of_lt hda, Nat.mod_eq_of_lt (show pf < 256 by omega),
      ofFields_of_lt _ _ _ hp (by omega) hsa]
  rw [hm, pgn_from_mid_eq]
  refine ⟨rfl, rfl, ?_⟩
  simp only [PGN.mk.injEq]; omega

theorem npv_pdu1 (pf da : Nat) (hpf : pf < 256) (hda : da < 256) :
    Tp21.notify_pgn_value { data_page := 0, pdu_format := pf, pdu_specific := da } = pf * 256 := by
  have h511 : ∀ x, x &&& 511 = x % 512 := fun x => by have := and_mask x 9; simpa using this
  rw [Tp21.notify_pgn_value, pgn_value_arith _ ⟨Nat.zero_lt_two, hpf, hda⟩, show (130816 : Nat) = 511 <<< 8 from rfl, and_shl,
    shr_8, h511, shl_8]
  simp only
  omega

end J1939.Dll21
