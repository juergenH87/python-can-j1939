/-
  The handlers of the J1939-22 model on a given form of input: one due pass of `async_job_thread` over a send record
  in a given state, `_process_tp_cm` on a frame with given fields and control byte, `_process_tp_dt` on the segment a
  record expects.  The frames are characterised by what the receive path extracts from them.  Once state or control byte
  are known, what is left of a dispatch are tests between reflected constants: they compute (`rfl`, `simp +decide`).
-/
import J1939.Model.Dll22
namespace J1939.Dll22
open J1939 J1939.Gen

theorem tickSndOne_early (cfg : Cfg) (now : Nat) (b : Snd) (hd0 : b.deadline ≠ 0) (h : now < b.deadline) :
    tickSndOne cfg now b = (some b, [], none, some b.deadline, .none) := by
  rw [tickSndOne, if_pos (bne_iff_ne.2 hd0), if_pos h]

theorem tickRcvOne_due (now : Nat) (r : Rcv) (hd0 : r.deadline ≠ 0) (hdt : r.deadline ≤ now) :
    tickRcvOne now r =
      (none, if r.dest != Const.Addr.GLOBAL then [.tx (Tp22.abort r.dest r.src r.session Const.Abort22.TIMEOUT r.pgn)] else [], none) := by
  rw [tickRcvOne, if_pos (bne_iff_ne.2 hd0), if_neg (Nat.not_lt.2 hdt)]

theorem tickSndOne_sending_state (cfg : Cfg) (now : Nat) (b : Snd) (hd0 : b.deadline ≠ 0) (hdt : b.deadline ≤ now)
    (hs : b.state = S_SENDING_RTS_CTS) :
    tickSndOne cfg now b =
      (let r := sendWindow cfg now (if b.next < b.numSegments then (b.numSegments - b.next).toNat + 1 else 1) b []
       let b1 := if r.2.2.isNone && r.1.state == S_SENDING_RTS_CTS && r.1.next ≥ (r.1.numSegments : Int)
                 then { r.1 with state := S_WAITING_CTS, deadline := now + Const.T22.T3 } else r.1
       (some b1, r.2.1, r.2.2, if r.2.2.isNone then some b1.deadline else none, .none)) := by
  rw [tickSndOne, if_pos (bne_iff_ne.2 hd0), if_neg (Nat.not_lt.2 hdt), hs]
  rfl

theorem tickSndOne_bam_state (cfg : Cfg) (now : Nat) (b : Snd) (hd0 : b.deadline ≠ 0) (hdt : b.deadline ≤ now)
    (hs : b.state = S_SENDING_BAM) :
    tickSndOne cfg now b =
      (match pyIndex b.data b.next with
       | none => (some b, [], some .IndexError, none, .none)
       | some seg =>
         (some (if b.next + 1 < b.numSegments then { b with next := b.next + 1, deadline := now + cfg.bamInterval }
                else { b with next := b.next + 1, state := S_SENDING_EOM_STATUS, deadline := now + cfg.bamInterval }),
          [.tx (Tp22.dt Const.LUT_FD_DLC b.src b.dest b.session (b.next + 1).toNat seg 0)], none, some (now + cfg.bamInterval), .none)) := by
  unfold tickSndOne
  simp +decide only [bne_iff_ne, ne_eq, hd0, not_false_eq_true, if_true, Nat.not_lt.2 hdt, if_false, hs, beq_iff_eq]
  cases pyIndex b.data b.next with
  | none => rfl
  | some seg => dsimp only; split <;> rfl

theorem tickSndOne_eoms_state (cfg : Cfg) (now : Nat) (b : Snd) (hd0 : b.deadline ≠ 0) (hdt : b.deadline ≤ now)
    (hs : b.state = S_SENDING_EOM_STATUS) :
    tickSndOne cfg now b =
      (none, [.tx (Tp22.eom_status b.src b.dest b.session b.messageSize b.numSegments b.pgn 0 0)], none, none, .bam b.session) := by
  rw [tickSndOne, if_pos (bne_iff_ne.2 hd0), if_neg (Nat.not_lt.2 hdt), hs]
  rfl

theorem tickSndOne_waiting_state (cfg : Cfg) (now : Nat) (b : Snd) (hd0 : b.deadline ≠ 0) (hdt : b.deadline ≤ now)
    (hs : b.state = S_WAITING_CTS) :
    tickSndOne cfg now b =
      (none, [.tx (Tp22.abort b.src b.dest b.session Const.Abort22.TIMEOUT b.pgn)], none, none, .rts b.session) := by
  rw [tickSndOne, if_pos (bne_iff_ne.2 hd0), if_neg (Nat.not_lt.2 hdt), hs]
  rfl

theorem tickSndOne_over_state (cfg : Cfg) (now : Nat) (b : Snd) (hd0 : b.deadline ≠ 0) (hdt : b.deadline ≤ now)
    (hs : b.state = S_WAITING_EOM_ACK ∨ b.state = S_EOM_ACK_RECEIVED ∨ b.state = S_FINISHED) :
    tickSndOne cfg now b = (none, [], none, none, .rts b.session) := by
  rw [tickSndOne, if_pos (bne_iff_ne.2 hd0), if_neg (Nat.not_lt.2 hdt)]
  rcases hs with hs | hs | hs
  · rw [hs]; rfl
  · rw [hs]; rfl
  · rw [hs]; rfl

/-- what the receive path extracts from an FD.TP.CM frame: the statements about `_process_tp_cm` below hold for the
    frames of ANY conforming peer -/
structure CmFrame (ctl sess size seg b7 pgn : Nat) (f : List Nat) : Prop where
  len : 12 ≤ f.length
  control : Tp22.cm_control f = ctl
  session : Tp22.cm_session f = sess
  size : Tp22.cm_size f = size
  segment : Tp22.cm_segment f = seg
  byte7 : Tp22.cm_byte7 f = b7
  pgn : Tp22.cm_pgn f = pgn

variable {cfg : Cfg} {s : St} {now : Nat} {mid : MessageId} {dest sa sess size seg b7 pgn : Nat} {f : List Nat}

theorem processCm_rts (hf : CmFrame Const.CM22.RTS sess size seg b7 pgn f) (hsa : mid.source_address = sa)
    (hne : sa ≠ Const.Addr.GLOBAL) (hfree : s.rcv.contains (Tp22.buffer_hash sess sa dest) = false) :
    processCm cfg s now mid dest f =
      { st := { s with rcv := s.rcv.set (Tp22.buffer_hash sess sa dest)
                                ({ pgn := pgn, session := sess, messageSize := size, numSegments := seg, nextPacket := 1,
                                   ctsBorder := some (min cfg.maxCmdt (min b7 seg)), maxRec := some (min cfg.maxCmdt (min b7 seg)),
                                   data := [], deadline := now + Const.T22.T2, src := sa, dest := dest }) },
        outs := [.tx (Tp22.cts dest sa sess (min cfg.maxCmdt (min b7 seg)) 1 pgn), .wake] } := by
  unfold processCm
  simp only [Nat.not_lt.2 hf.len, if_false, hsa, beq_iff_eq, hne, hf.control, hf.session, hf.size, hf.segment, hf.byte7, hf.pgn, if_true,
    hfree, Bool.false_eq_true]

theorem processCm_cts {b : Snd} {j g : Nat} (hf : CmFrame Const.CM22.CTS sess size (j + 1) g pgn f) (hsa : mid.source_address = sa)
    (hne : sa ≠ Const.Addr.GLOBAL) (hb : s.snd.get? (Tp22.buffer_hash sess dest sa) = some b)
    (hg : 0 < g) (hgc : g ≤ cfg.maxCmdt) (hfit : j + g ≤ b.numSegments) :
    processCm cfg s now mid dest f =
      { st := { s with snd := s.snd.set (Tp22.buffer_hash sess dest sa)
                                ({ b with next := (j : Int), waitOn := some ((j + g - 1 : Nat) : Int), state := S_SENDING_RTS_CTS,
                                          deadline := now }) },
        outs := [.wake] } := by
  have x1 : ¬ ((g : Int) > (b.numSegments : Int)) := by omega
  have x2 : ¬ ((g : Int) > (cfg.maxCmdt : Int)) := by omega
  have x3 : ¬ ((g : Int) > (b.numSegments : Int) - (j : Int)) := by omega
  have y1 : (((j + 1 : Nat) : Int) - 1) = (j : Int) := by omega
  have y2 : ((j : Int) + (g : Int) - 1) = ((j + g - 1 : Nat) : Int) := by omega
  unfold processCm
  simp +decide only [Nat.not_lt.2 hf.len, if_false, hsa, beq_iff_eq, hne, hf.control, hf.session, hf.segment, hf.byte7, if_true,
    hb, Nat.ne_of_gt hg, x1, x2, x3, y1, y2]

theorem processCm_eoms_eq {r : Rcv} (hf : CmFrame Const.CM22.EOM_STATUS sess size seg b7 pgn f) (hsa : mid.source_address = sa)
    (hne : sa ≠ Const.Addr.GLOBAL) (hr : s.rcv.get? (Tp22.buffer_hash sess sa dest) = some r) :
    processCm cfg s now mid dest f =
      { st := { s with rcv := s.rcv.erase (Tp22.buffer_hash sess sa dest) },
        outs := if r.messageSize == size && r.numSegments == seg && r.data.length == size then
            [Out.notify mid.priority r.pgn sa dest r.data] ++
              (if dest != Const.Addr.GLOBAL then [Out.tx (Tp22.eom_ack dest sa sess size seg r.pgn)] else [])
          else [Out.tx (Tp22.abort dest sa sess Const.Abort22.RESOURCES r.pgn)] } := by
  unfold processCm
  simp +decide only [Nat.not_lt.2 hf.len, if_false, hsa, beq_iff_eq, hne, hf.control, hf.session, hf.size, hf.segment, if_true, hr]

theorem processCm_eoms {r : Rcv} (hf : CmFrame Const.CM22.EOM_STATUS sess size seg b7 pgn f) (hsa : mid.source_address = sa)
    (hne : sa ≠ Const.Addr.GLOBAL) (hr : s.rcv.get? (Tp22.buffer_hash sess sa dest) = some r)
    (h1 : r.messageSize = size) (h2 : r.numSegments = seg) (h3 : r.data.length = size) :
    processCm cfg s now mid dest f =
      { st := { s with rcv := s.rcv.erase (Tp22.buffer_hash sess sa dest) },
        outs := [Out.notify mid.priority r.pgn sa dest r.data] ++
          (if dest != Const.Addr.GLOBAL then [Out.tx (Tp22.eom_ack dest sa sess size seg r.pgn)] else []) } := by
  rw [processCm_eoms_eq hf hsa hne hr, h1, h2, h3]
  simp only [beq_self_eq_true, Bool.and_self, if_true]

theorem processCm_eoma {b : Snd} (hf : CmFrame Const.CM22.EOM_ACK sess size seg b7 pgn f) (hsa : mid.source_address = sa)
    (hne : sa ≠ Const.Addr.GLOBAL) (hb : s.snd.get? (Tp22.buffer_hash sess dest sa) = some b) :
    processCm cfg s now mid dest f =
      { st := { s with snd := s.snd.set (Tp22.buffer_hash sess dest sa) ({ b with state := S_EOM_ACK_RECEIVED, deadline := now }) },
        outs := [.notify mid.priority pgn sa dest f, .wake] } := by
  unfold processCm
  simp +decide only [Nat.not_lt.2 hf.len, if_false, hsa, beq_iff_eq, hne, hf.control, hf.session, hf.pgn, if_true, hb]

theorem processCm_bam (hf : CmFrame Const.CM22.BAM sess size seg b7 pgn f) (hsa : mid.source_address = sa)
    (hne : sa ≠ Const.Addr.GLOBAL) (hfree : s.rcv.contains (Tp22.buffer_hash sess sa dest) = false) :
    processCm cfg s now mid dest f =
      { st := { s with rcv := s.rcv.set (Tp22.buffer_hash sess sa dest)
                                ({ pgn := pgn, session := sess, messageSize := size, numSegments := seg, nextPacket := 1,
                                   ctsBorder := none, maxRec := none, data := [], deadline := now + Const.T22.T1, src := sa,
                                   dest := dest }) },
        outs := [.wake] } := by
  unfold processCm
  simp +decide only [Nat.not_lt.2 hf.len, if_false, hsa, beq_iff_eq, hne, hf.control, hf.session, hf.size, hf.segment, hf.pgn, if_true,
    hfree, Bool.false_eq_true]

theorem processDt_inorder {r : Rcv} (hlen : 4 < f.length) (hs : Tp22.dt_session f = sess) (hg : Tp22.dt_segment f = seg)
    (hseg : seg ≠ 0) (hsa : mid.source_address = sa) (hr : s.rcv.get? (Tp22.buffer_hash sess sa dest) = some r)
    (hnext : r.nextPacket = seg) :
    processDt s now mid dest f =
      (let h := Tp22.buffer_hash sess sa dest
       let r1 : Rcv := { r with data := r.data ++ f.drop 4, nextPacket := seg + 1 }
       if r1.data.length ≥ r1.messageSize then
         let r2 := { r1 with data := r1.data.take r1.messageSize }
         let r3 := if dest != Const.Addr.GLOBAL then { r2 with deadline := now + Const.T22.T1 } else r2
         { st := { s with rcv := s.rcv.set h r3 }, outs := [.wake] }
       else if dest != Const.Addr.GLOBAL then
         match r.ctsBorder, r.maxRec with
         | some border, some mr =>
           if seg ≥ border then
             { st := { s with rcv := s.rcv.set h { r1 with ctsBorder := some (min (border + mr) r1.numSegments), deadline := now + Const.T22.T2 } },
               outs := [.tx (Tp22.cts dest sa sess (min mr (r1.numSegments - border)) (border + 1) r1.pgn), .wake] }
           else { st := { s with rcv := s.rcv.set h { r1 with deadline := now + Const.T22.T1 } } }
         | _, _ => { st := { s with rcv := s.rcv.set h r1 }, err := some .KeyError }
       else { st := { s with rcv := s.rcv.set h { r1 with deadline := now + Const.T22.T1 } } }) := by
  have hseg' : (seg == 0) = false := by simpa using hseg
  have hnx : (r.nextPacket != seg) = false := by simp [hnext]
  unfold processDt
  simp only [Nat.not_le.2 hlen, if_false, hs, hg, hseg', hsa, hr, hnx, Bool.false_eq_true]
  rfl

end J1939.Dll22
