/-
  Side conditions on the reflected J1939-21 constants (control bytes and buffer states pairwise distinct, timeouts positive)
  as simp facts: if an edit of the source makes two of them equal, these `decide`s fail and with them every theorem that
  relies on the case distinction.
-/
import J1939.Model.Dll21
namespace J1939.Dll21
open J1939.Gen

@[simp] theorem cm21_rts_ne_cts : (Const.CM21.RTS = Const.CM21.CTS) = False := by decide
@[simp] theorem cm21_rts_ne_eom_ack : (Const.CM21.RTS = Const.CM21.EOM_ACK) = False := by decide
@[simp] theorem cm21_rts_ne_bam : (Const.CM21.RTS = Const.CM21.BAM) = False := by decide
@[simp] theorem cm21_rts_ne_abort : (Const.CM21.RTS = Const.CM21.ABORT) = False := by decide
@[simp] theorem cm21_cts_ne_rts : (Const.CM21.CTS = Const.CM21.RTS) = False := by decide
@[simp] theorem cm21_cts_ne_eom_ack : (Const.CM21.CTS = Const.CM21.EOM_ACK) = False := by decide
@[simp] theorem cm21_cts_ne_bam : (Const.CM21.CTS = Const.CM21.BAM) = False := by decide
@[simp] theorem cm21_cts_ne_abort : (Const.CM21.CTS = Const.CM21.ABORT) = False := by decide
@[simp] theorem cm21_eom_ack_ne_rts : (Const.CM21.EOM_ACK = Const.CM21.RTS) = False := by decide
@[simp] theorem cm21_eom_ack_ne_cts : (Const.CM21.EOM_ACK = Const.CM21.CTS) = False := by decide
@[simp] theorem cm21_eom_ack_ne_bam : (Const.CM21.EOM_ACK = Const.CM21.BAM) = False := by decide
@[simp] theorem cm21_eom_ack_ne_abort : (Const.CM21.EOM_ACK = Const.CM21.ABORT) = False := by decide
@[simp] theorem cm21_bam_ne_rts : (Const.CM21.BAM = Const.CM21.RTS) = False := by decide
@[simp] theorem cm21_bam_ne_cts : (Const.CM21.BAM = Const.CM21.CTS) = False := by decide
@[simp] theorem cm21_bam_ne_eom_ack : (Const.CM21.BAM = Const.CM21.EOM_ACK) = False := by decide
@[simp] theorem cm21_bam_ne_abort : (Const.CM21.BAM = Const.CM21.ABORT) = False := by decide
@[simp] theorem cm21_abort_ne_rts : (Const.CM21.ABORT = Const.CM21.RTS) = False := by decide
@[simp] theorem cm21_abort_ne_cts : (Const.CM21.ABORT = Const.CM21.CTS) = False := by decide
@[simp] theorem cm21_abort_ne_eom_ack : (Const.CM21.ABORT = Const.CM21.EOM_ACK) = False := by decide
@[simp] theorem cm21_abort_ne_bam : (Const.CM21.ABORT = Const.CM21.BAM) = False := by decide
@[simp] theorem s21_waiting_cts_ne_sending_in_cts : (Const.S21.WAITING_CTS = Const.S21.SENDING_IN_CTS) = False := by decide
@[simp] theorem s21_waiting_cts_ne_sending_bm : (Const.S21.WAITING_CTS = Const.S21.SENDING_BM) = False := by decide
@[simp] theorem s21_waiting_cts_ne_transmission_finished : (Const.S21.WAITING_CTS = Const.S21.TRANSMISSION_FINISHED) = False := by decide
@[simp] theorem s21_sending_in_cts_ne_waiting_cts : (Const.S21.SENDING_IN_CTS = Const.S21.WAITING_CTS) = False := by decide
@[simp] theorem s21_sending_in_cts_ne_sending_bm : (Const.S21.SENDING_IN_CTS = Const.S21.SENDING_BM) = False := by decide
@[simp] theorem s21_sending_in_cts_ne_transmission_finished : (Const.S21.SENDING_IN_CTS = Const.S21.TRANSMISSION_FINISHED) = False := by decide
@[simp] theorem s21_sending_bm_ne_waiting_cts : (Const.S21.SENDING_BM = Const.S21.WAITING_CTS) = False := by decide
@[simp] theorem s21_sending_bm_ne_sending_in_cts : (Const.S21.SENDING_BM = Const.S21.SENDING_IN_CTS) = False := by decide
@[simp] theorem s21_sending_bm_ne_transmission_finished : (Const.S21.SENDING_BM = Const.S21.TRANSMISSION_FINISHED) = False := by decide
@[simp] theorem s21_transmission_finished_ne_waiting_cts : (Const.S21.TRANSMISSION_FINISHED = Const.S21.WAITING_CTS) = False := by decide
@[simp] theorem s21_transmission_finished_ne_sending_in_cts : (Const.S21.TRANSMISSION_FINISHED = Const.S21.SENDING_IN_CTS) = False := by decide
@[simp] theorem s21_transmission_finished_ne_sending_bm : (Const.S21.TRANSMISSION_FINISHED = Const.S21.SENDING_BM) = False := by decide

@[simp] theorem s_waiting_def : S_WAITING_CTS = Const.S21.WAITING_CTS := rfl
@[simp] theorem s_sending_def : S_SENDING_IN_CTS = Const.S21.SENDING_IN_CTS := rfl
@[simp] theorem s_bm_def : S_SENDING_BM = Const.S21.SENDING_BM := rfl
@[simp] theorem s_finished_def : S_FINISHED = Const.S21.TRANSMISSION_FINISHED := rfl

theorem t21_pos : 0 < Const.T21.T1 ∧ 0 < Const.T21.T2 ∧ 0 < Const.T21.T3 ∧ 0 < Const.T21.Th := by decide
@[simp] theorem addr_global : Const.Addr.GLOBAL = 255 := by decide

end J1939.Dll21
