/-
  J1939-22: conservation of the two originator session pools over every history (helper lemmas; statements in
  Props/C10.lean).  The send table is viewed as a lookup function; every operation of the model is one of three abstract
  transitions (update in place / delete + release / take + insert).
-/
import J1939.Lemmas.Codec
import J1939.Lemmas.Dll22Tick
namespace J1939.Dll22
open J1939 J1939.Gen

/-- CONSERVATION INVARIANT over the send table (as a lookup function) and the two pools: every record is of one kind; a
    broadcast record sits at a key whose destination byte is 255, a connection-mode record never; the key carries the
    record's session number; the record's number is marked used in the pool of its kind; two records of one kind never
    share a number; and every used number belongs to a record of that kind -/
structure ConsF (g : Nat → Option Snd) (rp bp : List Bool) : Prop where
  rl : rp.length = 8
  bl : bp.length = 4
  kind : ∀ k b, g k = some b → KBam b.state ∨ KRts b.state
  keyB : ∀ k b, g k = some b → KBam b.state → k % 256 = 255
  keyR : ∀ k b, g k = some b → KRts b.state → k % 256 ≠ 255
  keyS : ∀ k b, g k = some b → k / 65536 % 16 = b.session
  usedB : ∀ k b, g k = some b → KBam b.state → bp[b.session]? = some false
  usedR : ∀ k b, g k = some b → KRts b.state → rp[b.session]? = some false
  injB : ∀ k k' b b', g k = some b → g k' = some b' → KBam b.state → KBam b'.state → b.session = b'.session → k = k'
  injR : ∀ k k' b b', g k = some b → g k' = some b' → KRts b.state → KRts b'.state → b.session = b'.session → k = k'
  ownB : ∀ i, bp[i]? = some false → ∃ k b, g k = some b ∧ KBam b.state ∧ b.session = i
  ownR : ∀ i, rp[i]? = some false → ∃ k b, g k = some b ∧ KRts b.state ∧ b.session = i

/-- the part of `ConsF` that speaks of one kind `K` of record and its pool `p` -/
structure ConsK (K : Nat → Prop) (g : Nat → Option Snd) (p : List Bool) : Prop where
  used : ∀ k b, g k = some b → K b.state → p[b.session]? = some false
  inj : ∀ k k' b b', g k = some b → g k' = some b' → K b.state → K b'.state → b.session = b'.session → k = k'
  own : ∀ i, p[i]? = some false → ∃ k b, g k = some b ∧ K b.state ∧ b.session = i

/-- what `ConsF` asks of a single record at its key -/
def RecOk (k : Nat) (b : Snd) : Prop :=
  (KBam b.state ∨ KRts b.state) ∧ (KBam b.state → k % 256 = 255) ∧ (KRts b.state → k % 256 ≠ 255) ∧
    k / 65536 % 16 = b.session

theorem consF_iff (g : Nat → Option Snd) (rp bp : List Bool) :
    ConsF g rp bp ↔
      rp.length = 8 ∧ bp.length = 4 ∧ (∀ k b, g k = some b → RecOk k b) ∧ ConsK KBam g bp ∧ ConsK KRts g rp :=
  ⟨fun h => ⟨h.rl, h.bl, fun k b hk => ⟨h.kind k b hk, h.keyB k b hk, h.keyR k b hk, h.keyS k b hk⟩,
      ⟨h.usedB, h.injB, h.ownB⟩, ⟨h.usedR, h.injR, h.ownR⟩⟩,
   fun ⟨rl, bl, ok, hb, hr⟩ => ⟨rl, bl, fun k b hk => (ok k b hk).1, fun k b hk => (ok k b hk).2.1,
      fun k b hk => (ok k b hk).2.2.1, fun k b hk => (ok k b hk).2.2.2, hb.used, hr.used, hb.inj, hr.inj, hb.own, hr.own⟩⟩

theorem get_set {g g' : Nat → Option Snd} {k : Nat} {r : Snd} (hg : ∀ x, g' x = if x = k then some r else g x) {x : Nat} {c : Snd} :
    g' x = some c ↔ (x = k ∧ c = r) ∨ (x ≠ k ∧ g x = some c) := by
  rw [hg]
  by_cases hxk : x = k
  · rw [if_pos hxk]
    exact ⟨fun h => .inl ⟨hxk, (Option.some.inj h).symm⟩, fun h => h.elim (fun h => h.2 ▸ rfl) (fun h => absurd hxk h.1)⟩
  · rw [if_neg hxk]
    exact ⟨fun h => .inr ⟨hxk, h⟩, fun h => h.elim (fun h => absurd h.1 hxk) (·.2)⟩

theorem get_del {g g' : Nat → Option Snd} {k : Nat} (hg : ∀ x, g' x = if x = k then none else g x) {x : Nat} {c : Snd} :
    g' x = some c ↔ x ≠ k ∧ g x = some c := by
  rw [hg]
  by_cases hxk : x = k
  · rw [if_pos hxk]; exact ⟨nofun, fun h => absurd hxk h.1⟩
  · rw [if_neg hxk]; exact ⟨fun h => ⟨hxk, h⟩, (·.2)⟩

namespace ConsK
variable {K : Nat → Prop} {g g' : Nat → Option Snd} {p p' : List Bool}

theorem congr (h : ConsK K g p)
    (fw : ∀ k b, g k = some b → K b.state → ∃ b', g' k = some b' ∧ K b'.state ∧ b'.session = b.session)
    (bw : ∀ k b', g' k = some b' → K b'.state → ∃ b, g k = some b ∧ K b.state ∧ b.session = b'.session) :
    ConsK K g' p := by
  refine ⟨?_, ?_, ?_⟩
  · intro k b' hk hK
    obtain ⟨b, h0, hb, e⟩ := bw k b' hk hK
    exact e ▸ h.used k b h0 hb
  · intro k k' b b' hk hk' hK hK' e
    obtain ⟨c, h0, hc, ec⟩ := bw k b hk hK
    obtain ⟨c', h0', hc', ec'⟩ := bw k' b' hk' hK'
    exact h.inj k k' c c' h0 h0' hc hc' (by rw [ec, ec', e])
  · intro i hi
    obtain ⟨k, b, h0, hb, e⟩ := h.own i hi
    obtain ⟨b', h1, hb', e'⟩ := fw k b h0 hb
    exact ⟨k, b', h1, hb', e'.trans e⟩

theorem del (h : ConsK K g p) (k : Nat) (b : Snd) (hk : g k = some b) (hK : K b.state)
    (hg : ∀ x, g' x = if x = k then none else g x) (hp : ∀ j, p'[j]? = if j = b.session then some true else p[j]?) :
    ConsK K g' p' := by
  refine ⟨?_, ?_, ?_⟩
  · intro x c hx hc
    obtain ⟨hne, h0⟩ := (get_del hg).mp hx
    rw [hp, if_neg fun e => hne (h.inj x k c b h0 hk hc hK e)]
    exact h.used x c h0 hc
  · intro x x' c c' hx hx'
    exact h.inj x x' c c' ((get_del hg).mp hx).2 ((get_del hg).mp hx').2
  · intro i hi
    rw [hp] at hi
    by_cases hib : i = b.session
    · rw [if_pos hib] at hi; cases hi
    · rw [if_neg hib] at hi
      obtain ⟨x, c, h0, hc, e⟩ := h.own i hi
      have hxk : x ≠ k := by rintro rfl; rw [hk] at h0; cases h0; exact hib e.symm
      exact ⟨x, c, (get_del hg).mpr ⟨hxk, h0⟩, hc, e⟩

theorem free_key (h : ConsK K g p) (k i : Nat) (hfree : p[i]? = some true) (hk : ∀ c, g k = some c → K c.state ∧ c.session = i) :
    g k = none := by
  cases hc : g k with
  | none => rfl
  | some c =>
    have := h.used k c hc (hk c hc).1
    rw [(hk c hc).2, hfree] at this; cases this

theorem new (h : ConsK K g p) (k i : Nat) (r : Snd) (hfresh : g k = none) (hfree : p[i]? = some true)
    (hg : ∀ x, g' x = if x = k then some r else g x) (hrs : r.session = i) (hK : K r.state)
    (hp : ∀ j, p'[j]? = if j = i then some false else p[j]?) : ConsK K g' p' := by
  have noK : ∀ x c, g x = some c → K c.state → c.session ≠ i := by
    intro x c hx hc e
    have := h.used x c hx hc
    rw [e, hfree] at this; cases this
  refine ⟨?_, ?_, ?_⟩
  · intro x c hx hc
    rcases (get_set hg).mp hx with ⟨_, rfl⟩ | ⟨_, h0⟩
    · rw [hp, if_pos hrs]
    · rw [hp, if_neg (noK x c h0 hc)]; exact h.used x c h0 hc
  · intro x x' c c' hx hx' hc hc' hs
    rcases (get_set hg).mp hx with ⟨e1, rfl⟩ | ⟨_, h0⟩ <;> rcases (get_set hg).mp hx' with ⟨e2, rfl⟩ | ⟨_, h0'⟩
    · rw [e1, e2]
    · exact absurd (hs.symm.trans hrs) (noK x' c' h0' hc')
    · exact absurd (hs.trans hrs) (noK x c h0 hc)
    · exact h.inj x x' c c' h0 h0' hc hc' hs
  · intro j hj
    rw [hp] at hj
    by_cases hji : j = i
    · exact ⟨k, r, (get_set hg).mpr (.inl ⟨rfl, rfl⟩), hK, hrs.trans hji.symm⟩
    · rw [if_neg hji] at hj
      obtain ⟨x, c, h0, hc, e⟩ := h.own j hj
      have hxk : x ≠ k := by rintro rfl; rw [hfresh] at h0; cases h0
      exact ⟨x, c, (get_set hg).mpr (.inr ⟨hxk, h0⟩), hc, e⟩

theorem del_other (h : ConsK K g p) (k : Nat) (b : Snd) (hk : g k = some b) (hK : ¬ K b.state)
    (hg : ∀ x, g' x = if x = k then none else g x) : ConsK K g' p := by
  refine h.congr (fun x c hx hc => ⟨c, ?_, hc, rfl⟩) (fun x c hx hc => ⟨c, ((get_del hg).mp hx).2, hc, rfl⟩)
  have hxk : x ≠ k := by rintro rfl; rw [hk] at hx; cases hx; exact hK hc
  exact (get_del hg).mpr ⟨hxk, hx⟩

theorem new_other (h : ConsK K g p) (k : Nat) (r : Snd) (hfresh : g k = none) (hK : ¬ K r.state)
    (hg : ∀ x, g' x = if x = k then some r else g x) : ConsK K g' p := by
  refine h.congr (fun x c hx hc => ⟨c, ?_, hc, rfl⟩) (fun x c hx hc => ⟨c, ?_, hc, rfl⟩)
  · have hxk : x ≠ k := by rintro rfl; rw [hfresh] at hx; cases hx
    exact (get_set hg).mpr (.inr ⟨hxk, hx⟩)
  · rcases (get_set hg).mp hx with ⟨_, rfl⟩ | ⟨_, h0⟩
    · exact absurd hc hK
    · exact h0

theorem upd (h : ConsK K g p) (k : Nat) (b b' : Snd) (hk : g k = some b) (hg : ∀ x, g' x = if x = k then some b' else g x)
    (hs : b'.session = b.session) (hK : K b'.state ↔ K b.state) : ConsK K g' p := by
  refine h.congr (fun x c hx hc => ?_) (fun x c hx hc => ?_)
  · by_cases hxk : x = k
    · subst hxk; rw [hk] at hx; cases hx; exact ⟨b', (get_set hg).mpr (.inl ⟨rfl, rfl⟩), hK.mpr hc, hs⟩
    · exact ⟨c, (get_set hg).mpr (.inr ⟨hxk, hx⟩), hc, rfl⟩
  · rcases (get_set hg).mp hx with ⟨rfl, rfl⟩ | ⟨_, h0⟩
    · exact ⟨b, hk, hK.mp hc, hs.symm⟩
    · exact ⟨c, h0, hc, rfl⟩

end ConsK

theorem recOk_del {g g' : Nat → Option Snd} {k : Nat} (ok : ∀ x c, g x = some c → RecOk x c)
    (hg : ∀ x, g' x = if x = k then none else g x) : ∀ x c, g' x = some c → RecOk x c :=
  fun x c hx => ok x c ((get_del hg).mp hx).2

theorem recOk_set {g g' : Nat → Option Snd} {k : Nat} {r : Snd} (ok : ∀ x c, g x = some c → RecOk x c) (hr : RecOk k r)
    (hg : ∀ x, g' x = if x = k then some r else g x) : ∀ x c, g' x = some c → RecOk x c :=
  fun x c hx => ((get_set hg).mp hx).elim (fun h => h.1 ▸ h.2 ▸ hr) (fun h => ok x c h.2)

/-- UPDATE in place: the record at `k` is replaced by one of the same kind with the same session number -/
theorem consF_upd (g g' : Nat → Option Snd) (rp bp : List Bool) (k : Nat) (b b' : Snd) (h : ConsF g rp bp)
    (hk : g k = some b) (hg : ∀ x, g' x = if x = k then some b' else g x)
    (hs : b'.session = b.session) (hB : KBam b.state → KBam b'.state) (hR : KRts b.state → KRts b'.state) :
    ConsF g' rp bp := by
  obtain ⟨rl, bl, ok, cb, cr⟩ := (consF_iff g rp bp).mp h
  obtain ⟨kind, keyB, keyR, keyS⟩ := ok k b hk
  -- `b'` is of the kind `b` is of, and of no other
  have kb' : KBam b'.state → KBam b.state := fun hb' => kind.resolve_right fun hr => kinds_disjoint _ hb' (hR hr)
  have kr' : KRts b'.state → KRts b.state := fun hr' => kind.resolve_left fun hb => kinds_disjoint _ (hB hb) hr'
  exact (consF_iff g' rp bp).mpr ⟨rl, bl,
    recOk_set ok ⟨kind.imp hB hR, fun h => keyB (kb' h), fun h => keyR (kr' h), hs ▸ keyS⟩ hg,
    cb.upd k b b' hk hg hs ⟨kb', hB⟩, cr.upd k b b' hk hg hs ⟨kr', hR⟩⟩

/-- DELETE a broadcast record and return its number to the broadcast pool -/
theorem consF_delB (g g' : Nat → Option Snd) (rp bp bp' : List Bool) (k : Nat) (b : Snd) (h : ConsF g rp bp)
    (hk : g k = some b) (hkb : KBam b.state) (hg : ∀ x, g' x = if x = k then none else g x)
    (hl : bp'.length = bp.length) (hp : ∀ j, bp'[j]? = if j = b.session then some true else bp[j]?) :
    ConsF g' rp bp' := by
  obtain ⟨rl, bl, ok, cb, cr⟩ := (consF_iff g rp bp).mp h
  exact (consF_iff g' rp bp').mpr ⟨rl, hl ▸ bl, recOk_del ok hg, cb.del k b hk hkb hg hp,
    cr.del_other k b hk (kinds_disjoint _ hkb) hg⟩

theorem consF_delR (g g' : Nat → Option Snd) (rp rp' bp : List Bool) (k : Nat) (b : Snd) (h : ConsF g rp bp)
    (hk : g k = some b) (hkr : KRts b.state) (hg : ∀ x, g' x = if x = k then none else g x)
    (hl : rp'.length = rp.length) (hp : ∀ j, rp'[j]? = if j = b.session then some true else rp[j]?) :
    ConsF g' rp' bp := by
  obtain ⟨rl, bl, ok, cb, cr⟩ := (consF_iff g rp bp).mp h
  exact (consF_iff g' rp' bp).mpr ⟨hl ▸ rl, bl, recOk_del ok hg, cb.del_other k b hk (fun hb => kinds_disjoint _ hb hkr) hg,
    cr.del k b hk hkr hg hp⟩

/-- NEW broadcast record with a number taken from the broadcast pool -/
theorem consF_newB (g g' : Nat → Option Snd) (rp bp bp' : List Bool) (hkey i : Nat) (r : Snd) (h : ConsF g rp bp)
    (hfree : bp[i]? = some true) (hl : bp'.length = bp.length) (hp : ∀ j, bp'[j]? = if j = i then some false else bp[j]?)
    (hg : ∀ x, g' x = if x = hkey then some r else g x)
    (hrs : r.session = i) (hrk : KBam r.state) (hk1 : hkey % 256 = 255) (hk2 : hkey / 65536 % 16 = i) :
    ConsF g' rp bp' := by
  obtain ⟨rl, bl, ok, cb, cr⟩ := (consF_iff g rp bp).mp h
  -- a record at the key would be a broadcast record (low byte 255) holding number `i`
  have fresh : g hkey = none := cb.free_key hkey i hfree fun c hc => by
    obtain ⟨kind, _, keyR, keyS⟩ := ok hkey c hc
    exact ⟨kind.resolve_right fun hr => keyR hr hk1, keyS.symm.trans hk2⟩
  have nr : ¬ KRts r.state := kinds_disjoint _ hrk
  exact (consF_iff g' rp bp').mpr ⟨rl, hl ▸ bl, recOk_set ok ⟨.inl hrk, fun _ => hk1, fun h => absurd h nr, hrs ▸ hk2⟩ hg,
    cb.new hkey i r fresh hfree hg hrs hrk hp, cr.new_other hkey r fresh nr hg⟩

theorem consF_newR (g g' : Nat → Option Snd) (rp rp' bp : List Bool) (hkey i : Nat) (r : Snd) (h : ConsF g rp bp)
    (hfree : rp[i]? = some true) (hl : rp'.length = rp.length) (hp : ∀ j, rp'[j]? = if j = i then some false else rp[j]?)
    (hg : ∀ x, g' x = if x = hkey then some r else g x)
    (hrs : r.session = i) (hrk : KRts r.state) (hk1 : hkey % 256 ≠ 255) (hk2 : hkey / 65536 % 16 = i) :
    ConsF g' rp' bp := by
  obtain ⟨rl, bl, ok, cb, cr⟩ := (consF_iff g rp bp).mp h
  have fresh : g hkey = none := cr.free_key hkey i hfree fun c hc => by
    obtain ⟨kind, keyB, _, keyS⟩ := ok hkey c hc
    exact ⟨kind.resolve_left fun hb => hk1 (keyB hb), keyS.symm.trans hk2⟩
  have nb : ¬ KBam r.state := fun hb => kinds_disjoint _ hb hrk
  exact (consF_iff g' rp' bp).mpr ⟨hl ▸ rl, bl, recOk_set ok ⟨.inr hrk, fun h => absurd h nb, fun _ => hk1, hrs ▸ hk2⟩ hg,
    cb.new_other hkey r fresh nb hg, cr.new hkey i r fresh hfree hg hrs hrk hp⟩

def Cons (s : St) : Prop := ConsF s.snd.get? s.rtsPool s.bamPool

theorem hash_low (s a d : Nat) : Tp22.buffer_hash s a d % 256 = d % 256 := (buffer_hash_fields s a d).1

theorem hash_session (s a d : Nat) : Tp22.buffer_hash s a d / 65536 % 16 = s % 16 := (buffer_hash_fields s a d).2.2

/-- `send_pgn` (any arguments with a one-byte PS; accepted or refused; short, multi-PG or long) -/
theorem sendPgn_cons (cfg : Cfg) (s : St) (now dp pf ps prio sa : Nat) (data : List Nat) (tl ff : Nat) (hps : ps < 256)
    (h : Cons s) : Cons (sendPgn cfg s now dp pf ps prio sa data tl ff).1.st := by
  by_cases hshort : data.length ≤ 60
  · -- neither the send table nor a pool is touched
    rcases sendPgn_short cfg s now dp pf ps prio sa data tl ff hshort with e | ⟨_, _, _, e⟩
    · rw [e]; exact h
    · rw [e]; exact h
  replace hshort : 60 < data.length := by omega
  have hs := sendPgn_sent cfg s now dp pf ps prio sa data tl ff hshort
  generalize sendPgn cfg s now dp pf ps prio sa data tl ff = r at hs ⊢
  cases hs with
  | refused => exact h
  | bam i pool _ hg =>
    obtain ⟨g1, rfl, g2⟩ := poolGet_some _ _ _ hg
    have hi := (List.getElem?_eq_some_iff.mp g1).1
    have hi4 : i < 4 := h.bl ▸ hi
    -- a NEW broadcast record: number `i` was free (`g1`); the key ends in 255 and carries `i` (as `i < 16`)
    exact consF_newB s.snd.get? _ s.rtsPool s.bamPool _ (Tp22.buffer_hash i sa Const.Addr.GLOBAL) i _ h
      (hfree := g1) (hl := g2) (hp := getElem?_set_pool _ i false hi) (hg := fun x => PyDict.get?_set _ _ _ x)
      (hrs := rfl) (hrk := Or.inl rfl) (hk1 := by rw [hash_low]; rfl)
      (hk2 := by rw [hash_session]; exact Nat.mod_eq_of_lt (Nat.lt_trans hi4 (by decide)))
  | rts i pool hb hg =>
    have hne : ps ≠ 255 := by rintro rfl; cases hb
    obtain ⟨g1, rfl, g2⟩ := poolGet_some _ _ _ hg
    have hi := (List.getElem?_eq_some_iff.mp g1).1
    have hi8 : i < 8 := h.rl ▸ hi
    -- a NEW connection-mode record: number `i` was free; the key ends in PS, which is not 255, and carries `i` (as `i < 16`)
    exact consF_newR s.snd.get? _ s.rtsPool _ s.bamPool (Tp22.buffer_hash i sa ps) i _ h
      (hfree := g1) (hl := g2) (hp := getElem?_set_pool _ i false hi) (hg := fun x => PyDict.get?_set _ _ _ x)
      (hrs := rfl) (hrk := Or.inl rfl) (hk1 := by rw [hash_low, Nat.mod_eq_of_lt hps]; exact hne)
      (hk2 := by rw [hash_session]; exact Nat.mod_eq_of_lt (Nat.lt_trans hi8 (by decide)))

theorem SndRx.kind {now : Nat} {b b' : Snd} (h : SndRx now b b') : b'.session = b.session ∧ (b'.state = b.state ∨ KRts b'.state) := by
  cases h with
  | hold => exact ⟨rfl, .inl rfl⟩
  | cts => exact ⟨rfl, .inr krts_sending⟩
  | ack => exact ⟨rfl, .inr krts_ackrcvd⟩
  | abort => exact ⟨rfl, .inr krts_finished⟩

/-- this is where the repair of D29 is needed: a frame from source 255 would reach a broadcast record -/
theorem Rx.cons {now i src dest : Nat} {s t : St} (h : Rx now i src dest s t) (hsa : src < 256) (hc : Cons s) : Cons t := by
  cases h with
  | same | rcvSet | rcvErase => exact hc
  | snd b b' hsrc hb h =>
    -- the low byte of the key is the frame's source, which is not 255: the record is no broadcast record
    have nb : ¬ KBam b.state := fun hk => by
      have := hc.keyB _ b hb hk
      have : Const.Addr.GLOBAL = 255 := rfl
      rw [hash_low] at *; omega
    obtain ⟨hs, hst⟩ := h.kind
    exact consF_upd s.snd.get? _ s.rtsPool s.bamPool _ b b' hc hb (fun x => PyDict.get?_set _ _ _ x) hs (fun hk => absurd hk nb)
      (fun hr => hst.elim (fun e => e ▸ hr) id)

/-- EVERY FD.TP.CM frame (any content, from any one-byte source address) keeps the invariant -/
theorem processCm_cons (cfg : Cfg) (s : St) (now : Nat) (mid : MessageId) (dest : Nat) (data : List Nat)
    (hsa : mid.source_address < 256) (h : Cons s) : Cons (processCm cfg s now mid dest data).st :=
  (processCm_rx cfg s now mid dest data).cons hsa h

/-- EVERY received frame keeps the invariant -/
theorem notify_cons (cfg : Cfg) (s : St) (now : Nat) (acc : Nat → Bool) (canId : Nat) (data : List Nat) (h : Cons s) :
    Cons (notify cfg s now acc canId data).st := by
  obtain ⟨_, hrx⟩ := notify_rx cfg s now acc canId data
  exact hrx.cons (J1939.Lemmas.ofCanId_wf canId).2.2 h

/-- what one pass does to one record: it stays (same kind, same number, nothing released), or it is deleted without an
    exception and its number goes back to the pool of ITS kind -/
theorem tickSndOne_shape (cfg : Cfg) (now : Nat) (buf : Snd) (hk : KBam buf.state ∨ KRts buf.state) :
    (∃ b', (tickSndOne cfg now buf).1 = some b' ∧ b'.session = buf.session ∧ (KBam buf.state → KBam b'.state) ∧
        (KRts buf.state → KRts b'.state) ∧ (tickSndOne cfg now buf).2.2.2.2 = .none) ∨
    ((tickSndOne cfg now buf).1 = none ∧ (tickSndOne cfg now buf).2.2.1 = none ∧
        (tickSndOne cfg now buf).2.2.2.2 = .rts buf.session ∧ KRts buf.state) ∨
    ((tickSndOne cfg now buf).1 = none ∧ (tickSndOne cfg now buf).2.2.1 = none ∧
        (tickSndOne cfg now buf).2.2.2.2 = .bam buf.session ∧ KBam buf.state) := by
  have nb : KRts buf.state → ∀ st, KBam buf.state → KBam st := fun hr _ hb => (kinds_disjoint _ hb hr).elim
  have nr : KBam buf.state → ∀ st, KRts buf.state → KRts st := fun hb _ hr => (kinds_disjoint _ hb hr).elim
  have h := tickSndOne_pass cfg now buf
  generalize tickSndOne cfg now buf = r at h ⊢
  cases h with
  | unarmed | early | bamIndex => exact .inl ⟨buf, rfl, rfl, id, id, rfl⟩
  | timeout hs => exact .inr (.inl ⟨rfl, rfl, rfl, .inl hs⟩)
  | over hs => exact .inr (.inl ⟨rfl, rfl, rfl, .inr (.inr hs)⟩)
  | eoms hs => exact .inr (.inr ⟨rfl, rfl, rfl, .inr hs⟩)
  | bamSeg hs => exact .inl ⟨_, rfl, rfl, id, id, rfl⟩
  | bamLast hs => exact .inl ⟨_, rfl, rfl, fun _ => .inr rfl, nr (.inl hs) _, rfl⟩
  | window hs n hn r e hwin =>
    have hkr : KRts buf.state := .inr (.inl hs)
    cases hwin with
    | eom => exact .inl ⟨_, rfl, rfl, nb hkr _, fun _ => krts_waitack, rfl⟩
    | wait => exact .inl ⟨_, rfl, rfl, nb hkr _, fun _ => krts_waiting, rfl⟩
    | paced | done | index | key => exact .inl ⟨_, rfl, rfl, id, id, rfl⟩
  | unknown hb hr => exact (hk.elim hb hr).elim

theorem cons_release (s : St) (k : Nat) (b : Snd) (h : Cons s) (hk : s.snd.get? k = some b) :
    (KRts b.state → ∃ s2, release (sndApply s k none) (.rts b.session) = some s2 ∧ Cons s2) ∧
    (KBam b.state → ∃ s2, release (sndApply s k none) (.bam b.session) = some s2 ∧ Cons s2) := by
  refine ⟨fun hr => ?_, fun hb => ?_⟩
  · have hi := (List.getElem?_eq_some_iff.mp (h.usedR k b hk hr)).1
    exact ⟨{ sndApply s k none with rtsPool := s.rtsPool.set b.session true }, by rw [release, poolPut_eq (sndApply s k none).rtsPool _ hi]; rfl,
      consF_delR s.snd.get? _ s.rtsPool _ s.bamPool k b h hk hr (fun x => PyDict.get?_erase _ _ x) List.length_set
        (getElem?_set_pool _ _ true hi)⟩
  · have hi := (List.getElem?_eq_some_iff.mp (h.usedB k b hk hb)).1
    exact ⟨{ sndApply s k none with bamPool := s.bamPool.set b.session true }, by rw [release, poolPut_eq (sndApply s k none).bamPool _ hi]; rfl,
      consF_delB s.snd.get? _ s.rtsPool s.bamPool _ k b h hk hb (fun x => PyDict.get?_erase _ _ x) List.length_set
        (getElem?_set_pool _ _ true hi)⟩

/-- the send-table part of a background pass (any snapshot of keys) keeps the invariant -/
theorem tickSnd_cons (cfg : Cfg) (now : Nat) (ks : List Nat) (s : St) (nw : Nat) (o : List Out) (h : Cons s) :
    Cons (tickSnd cfg now ks s nw o).1 := by
  induction ks generalizing s nw o with
  | nil => exact h
  | cons k ks ih =>
    unfold tickSnd
    cases hg : s.snd.get? k with
    | none => exact h
    | some buf =>
      dsimp only
      rcases tickSndOne_shape cfg now buf (h.kind k buf hg) with
        ⟨b', hrec, hsess, hB, hR, hrel⟩ | ⟨hgone, herr, hrel, hkR⟩ | ⟨hgone, herr, hrel, hkB⟩
      · -- the record stays: an update in place, nothing released
        have hs1 : Cons (sndApply s k (some b')) :=
          consF_upd s.snd.get? _ s.rtsPool s.bamPool k buf b' h hg (fun x => PyDict.get?_set _ _ _ x) hsess hB hR
        rw [hrec, hrel]
        cases (tickSndOne cfg now buf).2.2.1 with
        | some err => exact hs1
        | none => exact ih _ _ _ hs1
      · -- deleted, its number back to the RTS/CTS pool
        obtain ⟨s2, hr, hs2⟩ := (cons_release s k buf h hg).1 hkR
        rw [hgone, herr, hrel]
        dsimp only
        rw [hr]
        exact ih _ _ _ hs2
      · -- deleted, its number back to the broadcast pool
        obtain ⟨s2, hr, hs2⟩ := (cons_release s k buf h hg).2 hkB
        rw [hgone, herr, hrel]
        dsimp only
        rw [hr]
        exact ih _ _ _ hs2

theorem tickRcv_keeps (now : Nat) (ks : List Nat) (s : St) (nw : Nat) (o : List Out) :
    (tickRcv now ks s nw o).1.snd = s.snd ∧ (tickRcv now ks s nw o).1.rtsPool = s.rtsPool ∧
    (tickRcv now ks s nw o).1.bamPool = s.bamPool := by
  induction ks generalizing s nw o with
  | nil => exact ⟨rfl, rfl, rfl⟩
  | cons k ks ih =>
    unfold tickRcv
    cases s.rcv.get? k with
    | none => exact ih _ _ _
    | some buf =>
      dsimp only
      cases (tickRcvOne now buf).1 <;> exact ih _ _ _

theorem tickMpg_keeps (now : Nat) (ks : List Nat) (s : St) (nw : Nat) (o : List Out) :
    (tickMpg now ks s nw o).1.snd = s.snd ∧ (tickMpg now ks s nw o).1.rtsPool = s.rtsPool ∧
    (tickMpg now ks s nw o).1.bamPool = s.bamPool := by
  induction ks generalizing s nw o with
  | nil => exact ⟨rfl, rfl, rfl⟩
  | cons k ks ih =>
    unfold tickMpg
    cases s.mpg.get? k with
    | none => exact ⟨rfl, rfl, rfl⟩
    | some buf =>
      dsimp only
      by_cases h : buf.deadline > now
      · rw [if_pos h]; exact ih _ _ _
      · rw [if_neg h]
        cases multiPgFrame (Tp22.buffer_unhash_mpg k).1 buf.cpgs (Tp22.buffer_unhash_mpg k).2.2.1 (Tp22.buffer_unhash_mpg k).2.2.2 with
        | none => exact ⟨rfl, rfl, rfl⟩
        | some f => exact ih _ _ _

theorem Cons.of_frame {s s' : St} (h : Cons s) (e : s'.snd = s.snd ∧ s'.rtsPool = s.rtsPool ∧ s'.bamPool = s.bamPool) : Cons s' := by
  unfold Cons at *; rw [e.1, e.2.1, e.2.2]; exact h

/-- a whole background pass keeps the invariant -/
theorem tick_cons (cfg : Cfg) (s : St) (now : Nat) (h : Cons s) : Cons (tick cfg s now).1.st := by
  unfold tick
  dsimp only
  have h1 := h.of_frame (tickRcv_keeps now s.rcv.keys s (now + Const.Ecu.idle_wakeup) [])
  generalize tickRcv now s.rcv.keys s (now + Const.Ecu.idle_wakeup) [] = r1 at h1 ⊢
  obtain ⟨s1, nw1, o1, _ | e⟩ := r1
  · dsimp only
    have h2 := Cons.of_frame h1 (tickMpg_keeps now s1.mpg.keys s1 nw1 o1)
    generalize tickMpg now s1.mpg.keys s1 nw1 o1 = r2 at h2 ⊢
    obtain ⟨s2, nw2, o2, _ | e⟩ := r2
    · exact tickSnd_cons cfg now s2.snd.keys s2 nw2 o2 h2
    · exact h2
  · exact h1

end J1939.Dll22
