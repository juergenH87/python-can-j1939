/-
  Little-endian byte fields and nibble pairs put together again by shifts and ors (the receive paths of J1939-21 and
  J1939-22 read their fields this way), in the arithmetic form `omega` can use.
-/
import J1939.Lemmas.Bits
namespace J1939.Bits

theorem le16_digits (v : Nat) : v % 256 ||| (v / 256 % 256) <<< 8 = v % 65536 := by
  rw [or_shl _ _ 8 (by omega)]; omega

theorem le24_digits (v : Nat) : v % 256 ||| (v / 256 % 256) <<< 8 ||| (v / 65536 % 256) <<< 16 = v % 16777216 := by
  rw [le16_digits, or_shl _ _ 16 (by omega)]; omega

/-- two nibbles in one byte (J1939-22: control | session, format indicator | session), packed and read back -/
theorem nib (a b : Nat) : ((a &&& 15) ||| ((b &&& 15) <<< 4)) = a % 16 + (b % 16) * 16 := by
  rw [and_15, and_15, or_shl _ _ 4 (by omega)]

theorem nib_split (a b : Nat) (ha : a < 16) (hb : b < 16) :
    (a % 16 + b % 16 * 16) &&& 15 = a ∧ (a % 16 + b % 16 * 16) >>> 4 &&& 15 = b := by
  rw [and_15, shr_4, and_15, Nat.mod_eq_of_lt ha, Nat.mod_eq_of_lt hb]; omega

/-- three little-endian bytes, masked as the J1939-22 receive path masks them -/
theorem le24_decode (v : Nat) (h : v < 16777216) :
    (((v % 256) &&& 255) ||| (((v / 256 % 256) &&& 255) <<< 8)) ||| (((v / 65536 % 256) &&& 255) <<< 16) = v := by
  rw [and_255, and_255, and_255, Nat.mod_mod, Nat.mod_mod, Nat.mod_mod, le24_digits, Nat.mod_eq_of_lt h]

end J1939.Bits
