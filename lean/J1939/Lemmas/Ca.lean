/-
  The two handlers of the address-claim state machine (Model/Ca.lean), branch by branch: one equation per branch and
  one case rule per handler (`pac_…`: `processAddressClaim`).  Everything else about the two handlers follows from these;
  the branches are told apart by the `@[simp]` distinctness facts of ConstCa.  First `At`, the predicate C04 speaks in.
-/
import J1939.Lemmas.ConstCa

namespace J1939.Props.C04
open J1939.Ca

/-- a CA is "at" address a: it announced it and is waiting for a veto or operational there -/
def At (c : Ca.Ca) (a : Nat) : Prop := (c.state = WAIT_VETO ∧ c.announced = a) ∨ (c.state = NORMAL ∧ c.addr = some a)

theorem At.unique {c : Ca.Ca} {a b : Nat} (ha : At c a) (hb : At c b) : a = b := by
  rcases ha with ⟨h1, h2⟩ | ⟨h1, h2⟩ <;> rcases hb with ⟨g1, g2⟩ | ⟨g1, g2⟩
  · exact h2.symm.trans g2
  · simp only [h1, wait_veto_ne_normal] at g1   -- the two states are different constants (`ConstCa`)
  · simp only [h1, normal_ne_wait_veto] at g1
  · exact Option.some.inj (h2.symm.trans g2)

end J1939.Props.C04

namespace J1939.Ca
open J1939 J1939.Gen J1939.Props.C04

theorem claimAsync_veto (c : Ca) (p : Nat) (hs : c.state = NONE) (hp : c.preferred = some p) (hr : p > 127 ∧ p < 248) :
    claimAsync c = ({ c with announced := p, state := WAIT_VETO }, [claimFrame c p], Const.Claim.VETO) := by
  simp [claimAsync, hs, hp, hr, claimFrame]

theorem claimAsync_now (c : Ca) (p : Nat) (hs : c.state = NONE) (hp : c.preferred = some p) (hr : ¬ (p > 127 ∧ p < 248)) :
    claimAsync c = ({ c with announced := p, addr := some p, state := NORMAL }, [claimFrame c p], 500000) := by
  simp [claimAsync, hs, hp, hr, claimFrame]

theorem claimAsync_wait (c : Ca) (hs : c.state = WAIT_VETO) :
    claimAsync c = ({ c with addr := some c.announced, state := NORMAL }, [], 500000) := by
  simp [claimAsync, hs]

/-- no preferred address, operational, cannot claim (or any value that is not a state at all) -/
theorem claimAsync_idle (c : Ca) (hs : c.state = NONE → c.preferred = none) (hw : c.state ≠ WAIT_VETO) :
    claimAsync c = (c, [], 500000) := by
  by_cases h0 : c.state = NONE
  · simp [claimAsync, h0, hs h0]
  · simp [claimAsync, h0, hw]

theorem claimAsync_cases {P : Ca × List Frame × Nat → Prop} (c : Ca)
    (veto : ∀ p, c.state = NONE → c.preferred = some p →
      P ({ c with announced := p, state := WAIT_VETO }, [claimFrame c p], Const.Claim.VETO))
    (now : ∀ p, c.state = NONE → c.preferred = some p →
      P ({ c with announced := p, addr := some p, state := NORMAL }, [claimFrame c p], 500000))
    (wait : c.state = WAIT_VETO → P ({ c with addr := some c.announced, state := NORMAL }, [], 500000))
    (idle : P (c, [], 500000)) : P (claimAsync c) := by
  by_cases hw : c.state = WAIT_VETO
  · rw [claimAsync_wait c hw]; exact wait hw
  · by_cases hs : c.state = NONE → c.preferred = none
    · rw [claimAsync_idle c hs hw]; exact idle
    · obtain ⟨h0, hp⟩ := Decidable.not_imp_iff_and_not.mp hs
      obtain ⟨p, hp⟩ := Option.ne_none_iff_exists'.mp hp
      by_cases hr : p > 127 ∧ p < 248
      · rw [claimAsync_veto c p h0 hp hr]; exact veto p h0 hp
      · rw [claimAsync_now c p h0 hp hr]; exact now p h0 hp

theorem contested_iff (c : Ca) (sa : Nat) :
    ((c.state == NORMAL && some sa == c.addr) || (c.state == WAIT_VETO && sa == c.announced)) = true ↔ At c sa := by
  simp only [Bool.or_eq_true, Bool.and_eq_true, beq_iff_eq, At]
  rw [or_comm, eq_comm (a := some sa), eq_comm (a := sa)]

theorem pac_foreign (c : Ca) (sa : Nat) (d : List Nat) (h : ¬ At c sa) : processAddressClaim c sa d = (c, []) := by
  rw [processAddressClaim, if_neg (mt (contested_iff c sa).mp h)]

theorem pac_same (c : Ca) (sa : Nat) (d : List Nat) (h : Name.value c.name = Name.value (Name.ofBytes d)) :
    processAddressClaim c sa d = (c, []) := by
  simp [processAddressClaim, h]

theorem pac_defend (c : Ca) (sa : Nat) (d : List Nat) (hat : At c sa)
    (h : Name.value c.name < Name.value (Name.ofBytes d)) : processAddressClaim c sa d = (c, [claimFrame c sa]) := by
  rw [processAddressClaim, if_pos ((contested_iff c sa).mpr hat)]
  rcases hat with ⟨hs, ha⟩ | ⟨hs, ha⟩ <;> simp [hs, ha, Nat.ne_of_lt h, Nat.lt_asymm h]

theorem pac_giveUp (c : Ca) (sa : Nat) (d : List Nat) (hat : At c sa) (h : Name.value (Name.ofBytes d) < Name.value c.name)
    (hc : c.name.arbitrary_address_capable = 0 ∨ 253 ≤ c.announced) :
    processAddressClaim c sa d = ({ c with state := CANNOT_CLAIM, addr := none }, [claimFrame c Const.Addr.NULL]) := by
  rw [processAddressClaim, if_pos ((contested_iff c sa).mpr hat)]
  simp [Nat.ne_of_gt h, h, hc]

theorem pac_next (c : Ca) (sa : Nat) (d : List Nat) (hat : At c sa) (h : Name.value (Name.ofBytes d) < Name.value c.name)
    (hc : c.name.arbitrary_address_capable ≠ 0 ∧ c.announced < 253) :
    processAddressClaim c sa d =
      ({ c with addr := some Const.Addr.NULL, announced := c.announced + 1, state := WAIT_VETO }, [claimFrame c (c.announced + 1)]) := by
  rw [processAddressClaim, if_pos ((contested_iff c sa).mpr hat)]
  simp [Nat.ne_of_gt h, h, hc, claimFrame]

theorem pac_cases {P : Ca × List Frame → Prop} (c : Ca) (sa : Nat) (d : List Nat)
    (ignore : P (c, []))
    (defend : At c sa → P (c, [claimFrame c sa]))
    (giveUp : P ({ c with state := CANNOT_CLAIM, addr := none }, [claimFrame c Const.Addr.NULL]))
    (next : c.announced < 253 →
      P ({ c with addr := some Const.Addr.NULL, announced := c.announced + 1, state := WAIT_VETO }, [claimFrame c (c.announced + 1)])) :
    P (processAddressClaim c sa d) := by
  by_cases hat : At c sa
  · rcases Nat.lt_trichotomy (Name.value c.name) (Name.value (Name.ofBytes d)) with h | h | h
    · rw [pac_defend c sa d hat h]; exact defend hat
    · rw [pac_same c sa d h]; exact ignore
    · by_cases hc : c.name.arbitrary_address_capable = 0 ∨ 253 ≤ c.announced
      · rw [pac_giveUp c sa d hat h hc]; exact giveUp
      · have hc' : c.name.arbitrary_address_capable ≠ 0 ∧ c.announced < 253 := by omega
        rw [pac_next c sa d hat h hc']; exact next hc'.2
  · rw [pac_foreign c sa d hat]; exact ignore

end J1939.Ca
