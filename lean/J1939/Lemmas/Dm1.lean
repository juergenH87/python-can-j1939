/-
  The DM1 build / parse model: `Py.idx` on built payloads, the two lamp bytes (four two-bit fields each, read back through
  `Radix`; the reflected tables row by row), then the list of trouble codes.  Property statements: Props/C16.lean.
-/
import J1939.Model.Dm1
import J1939.Lemmas.Dtc
namespace J1939.Dm1
open J1939 J1939.Gen J1939.Lemmas J1939.Bits J1939.Radix

/-- an in-range trouble code: SPN 19 bits, FMI 5 bits, OC 7 bits -/
def Dtc.InRange (d : Dtc) : Prop := d.spn < 524288 ∧ d.fmi < 32 ∧ d.oc < 128

theorem dtcBytes_length (d : Dtc) : (dtcBytes d).length = 4 := rfl

theorem flatMap_length (dtcs : List Dtc) : (dtcs.flatMap dtcBytes).length = 4 * dtcs.length := by
  induction dtcs with
  | nil => rfl
  | cons d ds ih => simp only [List.flatMap_cons, List.length_append, dtcBytes_length, ih, List.length_cons]; omega

theorem lampData_length (st : List Nat) : (lampData st).length = 2 := rfl

theorem build_length (lamps : List Nat) (dtcs : List Dtc) : (build lamps dtcs).length = 2 + 4 * dtcs.length := by
  simp only [build, List.length_append, lampData_length, flatMap_length]

theorem parse_of_length (data : List Nat) (n : Nat) (hn : 0 < n) (hl : data.length = 2 + 4 * n) :
    parse data =
      some ([Gen.Dm1.parse_lamp_pl data, Gen.Dm1.parse_lamp_awl data, Gen.Dm1.parse_lamp_rsl data, Gen.Dm1.parse_lamp_mil data],
            (List.range n).map (fun i =>
              let d := DTC.ofDtc (Gen.Dm1.parse_dtc_int data i); { spn := d.spn, fmi := d.fmi, oc := d.oc })) := by
  rw [parse, if_neg (by omega), hl, Nat.add_sub_cancel_left, Nat.mul_mod_right, Nat.mul_div_cancel_left _ (by decide : 0 < 4),
    if_neg (by simp)]

theorem idx_append_left (a b : List Nat) (i : Nat) (h : i < a.length) : Py.idx (a ++ b) i = Py.idx a i := by
  simp [Py.idx, List.getD_eq_getElem?_getD, List.getElem?_append_left h]

theorem idx_append_right (a b : List Nat) (i : Nat) (h : a.length ≤ i) : Py.idx (a ++ b) i = Py.idx b (i - a.length) := by
  simp [Py.idx, List.getD_eq_getElem?_getD, List.getElem?_append_right h]

theorem build_idx (lamps : List Nat) (dtcs : List Dtc) (i : Nat) (h : i < 2) :
    Py.idx (build lamps dtcs) i = Py.idx (lampData lamps) i := idx_append_left _ _ _ h

theorem idx_skip (hdr bs rest : List Nat) (j : Nat) (h : hdr.length ≤ j) :
    Py.idx (hdr ++ (bs ++ rest)) (j + bs.length) = Py.idx (hdr ++ rest) j := by
  rw [idx_append_right _ _ _ (Nat.le_add_right_of_le h), idx_append_right _ _ _ h, Nat.sub_add_comm h,
    idx_append_right _ _ _ (Nat.le_add_left _ _), Nat.add_sub_cancel]

theorem idx_cons_zero (x : Nat) (l : List Nat) : Py.idx (x :: l) 0 = x := rfl

theorem idx_cons_succ (x : Nat) (l : List Nat) (i : Nat) : Py.idx (x :: l) (i + 1) = Py.idx l i := rfl

/-! ### the two lamp bytes: four two-bit fields each, a numeral in radix 4 -/

theorem or_pairs (x0 x1 x2 x3 : Nat) (h0 : x0 < 4) (h1 : x1 < 4) (h2 : x2 < 4) :
    x0 ||| x1 <<< 2 ||| x2 <<< 4 ||| x3 <<< 6 = val [4, 4, 4, 4] [x0, x1, x2, x3] := by
  rw [or_shl x0 x1 2 h0, or_shl _ x2 4 (by omega), or_shl _ x3 6 (by omega)]
  simp only [val]; omega

/-- the shifts and masks of `_parse_dm1_receive_data` read the four fields back -/
theorem pairs_read (x0 x1 x2 x3 : Nat) (h0 : x0 < 4) (h1 : x1 < 4) (h2 : x2 < 4) (h3 : x3 < 4) :
    let v := x0 ||| x1 <<< 2 ||| x2 <<< 4 ||| x3 <<< 6
    v &&& 3 = x0 ∧ v >>> 2 &&& 3 = x1 ∧ v >>> 4 &&& 3 = x2 ∧ v >>> 6 &&& 3 = x3 := by
  have hd := digits_val [4, 4, 4, 4] [x0, x1, x2, x3] ⟨h0, h1, h2, h3, trivial⟩
  rw [← or_pairs x0 x1 x2 x3 h0 h1 h2] at hd
  simp only [digits, Nat.div_div_eq_div_mul, Nat.reduceMul, List.cons.injEq, and_true] at hd
  simp only [and_3, shr, Nat.reducePow]
  exact hd

/-- the tables of `DtcLamp`, row by row -/
theorem lamp_table : ∀ s < 5, Py.idx Const.Lamp.lut_lamp s < 4 ∧ Py.idx Const.Lamp.lut_flash s < 4 ∧
    DtcLamp.get_status (Py.idx Const.Lamp.lut_lamp s) (Py.idx Const.Lamp.lut_flash s) = s := by decide

theorem lampData_four (a b c e : Nat) (ha : a < 5) (hb : b < 5) (hc : c < 5) (he : e < 5) :
    lampData [a, b, c, e] =
      [Py.idx Const.Lamp.lut_lamp a ||| Py.idx Const.Lamp.lut_lamp b <<< 2 ||| Py.idx Const.Lamp.lut_lamp c <<< 4
         ||| Py.idx Const.Lamp.lut_lamp e <<< 6,
       Py.idx Const.Lamp.lut_flash a ||| Py.idx Const.Lamp.lut_flash b <<< 2 ||| Py.idx Const.Lamp.lut_flash c <<< 4
         ||| Py.idx Const.Lamp.lut_flash e <<< 6] := by
  simp only [lampData, show Const.Lamp.lut_lamp.length = 5 from rfl, Const.Lamp.nkeys, List.take_succ_cons, List.take_zero,
    List.zipIdx_cons, List.zipIdx_nil, List.foldl_cons, List.foldl_nil, if_pos ha, if_pos hb, if_pos hc, if_pos he,
    Nat.zero_or, Nat.zero_mul, Nat.shiftLeft_zero, Nat.reduceMul, Nat.reduceAdd]

/-- the four bytes on the wire are the SAE J1939-73 layout, for every code: out-of-range fields are masked -/
theorem dtcBytes_eq (d : Dtc) : dtcBytes d = Ref.dtcBytes d.spn d.fmi d.oc := by
  rw [dtcBytes, dm1_bytes_arith, dtc_pack_bytes, digits_val _ _ (dtcBytes_below _ _ _)]

theorem parse_dtc_int_eq (data : List Nat) (i : Nat) :
    Gen.Dm1.parse_dtc_int data i = val (List.replicate 4 256)
      [Py.idx data (i * 4 + 2) % 256, Py.idx data (i * 4 + 3) % 256, Py.idx data (i * 4 + 4) % 256, Py.idx data (i * 4 + 5) % 256] := by
  have h (x : Nat) : x % 256 < 256 := Nat.mod_lt _ (by decide)
  simp only [Gen.Dm1.parse_dtc_int, and_255, List.replicate, val, Nat.mul_zero, Nat.add_zero]
  exact le32_or _ _ _ _ (h _) (h _) (h _)

/-- the first code of a payload, read back: the bytes are the digits of the packed value, already below 256 -/
theorem parse_dtc_int_zero (hdr : List Nat) (hh : hdr.length = 2) (d : Dtc) (rest : List Nat) :
    Gen.Dm1.parse_dtc_int (hdr ++ (dtcBytes d ++ rest)) 0 = (DTC.ofFields d.spn d.fmi d.oc).dtc := by
  have key : ∀ k, 2 ≤ k → k < 6 → Py.idx (hdr ++ (dtcBytes d ++ rest)) (0 * 4 + k) = Py.idx (dtcBytes d) (k - 2) := by
    intro k h2 h6
    rw [Nat.zero_mul, Nat.zero_add, idx_append_right _ _ _ (hh ▸ h2), hh, idx_append_left _ _ _ (by rw [dtcBytes_length]; omega)]
  have hv := dtc_pack_lt d.spn d.fmi d.oc
  rw [parse_dtc_int_eq, key 2 (by decide) (by decide), key 3 (by decide) (by decide), key 4 (by decide) (by decide),
    key 5 (by decide) (by decide), dtcBytes, dm1_bytes_arith]
  simp only [List.replicate, digits, Py.idx, Nat.reduceSub, List.getD_cons_zero, List.getD_cons_succ, Nat.mod_mod]
  exact (val_digits (List.replicate 4 256) _).trans (Nat.mod_eq_of_lt hv)

theorem parse_dtc_int_succ (hdr : List Nat) (hh : hdr.length = 2) (bs : List Nat) (hb : bs.length = 4) (rest : List Nat) (i : Nat) :
    Gen.Dm1.parse_dtc_int (hdr ++ (bs ++ rest)) (i + 1) = Gen.Dm1.parse_dtc_int (hdr ++ rest) i := by
  have key (k : Nat) (h2 : 2 ≤ k) : Py.idx (hdr ++ (bs ++ rest)) ((i + 1) * 4 + k) = Py.idx (hdr ++ rest) (i * 4 + k) := by
    rw [Nat.succ_mul, Nat.add_right_comm, ← hb, idx_skip _ _ _ _ (hh ▸ Nat.le_trans h2 (Nat.le_add_left k _))]
  rw [parse_dtc_int_eq, parse_dtc_int_eq, key 2 (by decide), key 3 (by decide), key 4 (by decide), key 5 (by decide)]

theorem unpack_pack (d : Dtc) (hd : Dtc.InRange d) :
    (let x := DTC.ofDtc (DTC.ofFields d.spn d.fmi d.oc).dtc; ({ spn := x.spn, fmi := x.fmi, oc := x.oc } : Dtc)) = d := by
  obtain ⟨h1, h2, h3⟩ := hd
  rw [dtc_unpack_pack]
  simp only [Nat.mod_eq_of_lt h1, Nat.mod_eq_of_lt h2, Nat.mod_eq_of_lt h3]

theorem parse_list (hdr : List Nat) (hh : hdr.length = 2) (dtcs : List Dtc) (hp : ∀ d ∈ dtcs, Dtc.InRange d) :
    (List.range dtcs.length).map (fun i =>
        let x := DTC.ofDtc (Gen.Dm1.parse_dtc_int (hdr ++ dtcs.flatMap dtcBytes) i);
        ({ spn := x.spn, fmi := x.fmi, oc := x.oc } : Dtc)) = dtcs := by
  induction dtcs with
  | nil => rfl
  | cons d ds ih =>
    rw [List.forall_mem_cons] at hp
    rw [List.length_cons, List.range_succ_eq_map, List.map_cons, List.map_map, List.flatMap_cons]
    congr 1
    · rw [parse_dtc_int_zero hdr hh]; exact unpack_pack d hp.1
    · refine Eq.trans (List.map_congr_left fun i _ => ?_) (ih hp.2)
      simp only [Function.comp, Nat.succ_eq_add_one, parse_dtc_int_succ hdr hh _ (dtcBytes_length d)]

end J1939.Dm1
