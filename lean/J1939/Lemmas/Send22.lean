/-
  J1939-22: the session pools, the session key in arithmetic form, and what `send_pgn` does — the equations of a long
  message (a number of the pool of its kind, or refusal) and the footprint of a short one.
-/
import J1939.Model.Dll22
import J1939.Lemmas.Bits
import J1939.Lemmas.Radix

namespace J1939.Props.C02
open J1939 J1939.Gen J1939.Dll22

/-- the PGN a broadcast announces: PS cleared for a PDU1 PGN -/
def bamPgn (dp pf ps : Nat) : Nat :=
  if PGN.is_pdu1_format (PGN.ofFields dp pf ps) then PGN.value { PGN.ofFields dp pf ps with pdu_specific := 0 }
  else PGN.value (PGN.ofFields dp pf ps)

/-- the send record of an FD broadcast that got session number `i` -/
def bamRec (cfg : Cfg) (now dp pf ps prio sa i : Nat) (msg : List Nat) : Snd :=
  { pgn := bamPgn dp pf ps, priority := prio, session := i, messageSize := msg.length, numSegments := Tp22.num_segments msg.length,
    data := chunks60 msg, state := S_SENDING_BAM, deadline := now + cfg.bamInterval, src := sa, dest := Const.Addr.GLOBAL,
    next := 0, waitOn := none }

/-- the PGN a destination-specific transfer announces: PS cleared -/
def rtsPgn (dp pf ps : Nat) : Nat := PGN.value { PGN.ofFields dp pf ps with pdu_specific := 0 }

/-- the send record of an FD destination-specific transfer that got session number `i` -/
def rtsRec (now dp pf ps prio sa i : Nat) (msg : List Nat) : Snd :=
  { pgn := rtsPgn dp pf ps, priority := prio, session := i, messageSize := msg.length, numSegments := Tp22.num_segments msg.length,
    data := chunks60 msg, state := S_WAITING_CTS, deadline := now + Const.T22.T3, src := sa, dest := ps, next := 0, waitOn := some 0 }

end J1939.Props.C02

namespace J1939.Dll22
open J1939 J1939.Gen J1939.Props.C02

theorem chunks60_len (data : List Nat) : 1 ≤ (chunks60 data).length ∧ Tp22.num_segments data.length ≤ (chunks60 data).length := by
  unfold chunks60 Tp22.num_segments Py.b2n
  have hTP : Const.DL22.TP = 60 := rfl
  simp only [hTP, List.length_append, List.length_map, List.length_range, List.length_cons, List.length_nil]
  constructor
  · omega
  · split <;> omega

theorem poolGet_some (p : List Bool) (i : Nat) (q : List Bool) (h : poolGet p = some (i, q)) :
    p[i]? = some true ∧ q = p.set i false ∧ q.length = p.length := by
  induction p generalizing i q with
  | nil => simp [poolGet] at h
  | cons b p ih =>
    cases b with
    | true =>
      simp only [poolGet, Option.some.injEq, Prod.mk.injEq] at h
      obtain ⟨rfl, rfl⟩ := h
      simp
    | false =>
      simp only [poolGet, Option.map_eq_some_iff] at h
      obtain ⟨⟨j, r⟩, hj, he⟩ := h
      simp only [Prod.mk.injEq] at he
      obtain ⟨rfl, rfl⟩ := he
      obtain ⟨h1, h2, h3⟩ := ih j r hj
      simp [h1, h2]

theorem poolGet_lt (p q : List Bool) (i : Nat) (h : poolGet p = some (i, q)) : i < p.length :=
  (List.getElem?_eq_some_iff.mp (poolGet_some p i q h).1).1

theorem poolPut_eq (p : List Bool) (i : Nat) (h : i < p.length) : poolPut p i = some (p.set i true) := if_pos h

theorem getElem?_set_pool (p : List Bool) (i : Nat) (v : Bool) (hi : i < p.length) (j : Nat) :
    (p.set i v)[j]? = if j = i then some v else p[j]? := by
  rw [List.getElem?_set]
  by_cases hj : j = i
  · rw [if_pos hj, if_pos hj.symm, if_pos hi]
  · rw [if_neg hj, if_neg (Ne.symm hj)]

open J1939.Bits J1939.Radix in
/-- the session key is the numeral with the digits destination, source, session number in the radices 2^8, 2^8, 2^4 -/
theorem buffer_hash_val (i s d : Nat) : Tp22.buffer_hash i s d = val [256, 256, 16] [d % 256, s % 256, i % 16] := by
  -- the fields are or-ed together most significant first, `le24_or` has them least significant first
  rw [Tp22.buffer_hash, and_255, and_255, and_15, Nat.or_comm, Nat.or_comm (_ <<< 16), ← Nat.or_assoc,
    le24_or _ _ _ (Nat.mod_lt _ (by decide)) (Nat.mod_lt _ (by decide))]
  simp only [val, Nat.mul_zero, Nat.add_zero]

open J1939.Radix in
/-- … and `/`, `%` read them back -/
theorem buffer_hash_fields (i s d : Nat) :
    Tp22.buffer_hash i s d % 256 = d % 256 ∧ Tp22.buffer_hash i s d / 256 % 256 = s % 256 ∧
    Tp22.buffer_hash i s d / 65536 % 16 = i % 16 := by
  have h := digits_val [256, 256, 16] [d % 256, s % 256, i % 16]
    ⟨Nat.mod_lt _ (by decide), Nat.mod_lt _ (by decide), Nat.mod_lt _ (by decide), trivial⟩
  rw [← buffer_hash_val] at h
  simpa only [digits, Nat.div_div_eq_div_mul, Nat.reduceMul, List.cons.injEq, and_true] using h

theorem sendPgn_short (cfg : Cfg) (s : St) (now dp pf ps prio sa : Nat) (data : List Nat) (tl ff : Nat) (h : data.length ≤ 60) :
    (sendPgn cfg s now dp pf ps prio sa data tl ff).1.st = s ∨
    ∃ dst cpg, cpg.data = data ∧
      (sendPgn cfg s now dp pf ps prio sa data tl ff).1.st = { s with mpg := (mpgPlace now (now + tl) ff sa dst cpg 257 0 s.mpg []).1 } := by
  unfold sendPgn
  dsimp only
  rw [if_pos (show data.length ≤ Const.DL22.TP from h)]
  generalize (if PGN.is_pdu1_format (PGN.ofFields dp pf ps) = true then (Mpg.cpgn_pdu1 (PGN.ofFields dp pf ps), ps)
    else (PGN.value (PGN.ofFields dp pf ps), Const.Addr.GLOBAL)) = cd
  obtain ⟨cpgn, dst⟩ := cd
  dsimp only
  by_cases h1 : (ff == Const.FF.FBFF && dst != Const.Addr.GLOBAL) = true
  · rw [if_pos h1]; exact .inl rfl
  rw [if_neg h1]
  by_cases h2 : (tl == 0) = true
  · rw [if_pos h2]
    cases multiPgFrame ff [_] sa dst <;> exact .inl rfl
  rw [if_neg h2]
  -- `send_pgn` takes the pair `mpgPlace` returns apart (`let (m, o) := …`): with the pair named, that `match` reduces
  cases hm : mpgPlace now (now + tl) ff sa dst
    { priority := (if ff == Const.FF.FBFF then 0 else prio) &&& 7, tos := 2, tf := 0, cpgn := cpgn &&& 262143, data := data } 257 0 s.mpg []
  exact .inr ⟨dst, _, rfl, by rw [hm]⟩

/-- what `send_pgn` does with a message of more than 60 bytes: it is refused and nothing changes (the pool of its kind has
    no free number), or a record is opened under the number `i` that pool hands out, the announcement goes out and a pass
    is requested -/
inductive Sent (cfg : Cfg) (now dp pf ps prio sa : Nat) (msg : List Nat) (s : St) : Res × Bool → Prop
  | refused (h : (if ps == Const.Addr.GLOBAL || PGN.is_pdu2_format (PGN.ofFields 0 pf ps) then poolGet s.bamPool
        else poolGet s.rtsPool) = none) : Sent cfg now dp pf ps prio sa msg s ({ st := s }, false)
  | bam (i : Nat) (pool : List Bool) (hb : (ps == Const.Addr.GLOBAL || PGN.is_pdu2_format (PGN.ofFields 0 pf ps)) = true)
      (hg : poolGet s.bamPool = some (i, pool)) :
      Sent cfg now dp pf ps prio sa msg s
        ({ st := { s with bamPool := pool, snd := s.snd.set (Tp22.buffer_hash i sa Const.Addr.GLOBAL) (bamRec cfg now dp pf ps prio sa i msg) },
           outs := [.tx (Tp22.bam prio sa i (bamPgn dp pf ps) msg.length (Tp22.num_segments msg.length)), .wake] }, true)
  | rts (i : Nat) (pool : List Bool) (hb : (ps == Const.Addr.GLOBAL || PGN.is_pdu2_format (PGN.ofFields 0 pf ps)) = false)
      (hg : poolGet s.rtsPool = some (i, pool)) :
      Sent cfg now dp pf ps prio sa msg s
        ({ st := { s with rtsPool := pool, snd := s.snd.set (Tp22.buffer_hash i sa ps) (rtsRec now dp pf ps prio sa i msg) },
           outs := [.tx (Tp22.rts prio sa ps i (rtsPgn dp pf ps) msg.length (Tp22.num_segments msg.length)
                           (min cfg.maxCmdt (Tp22.num_segments msg.length)) 0), .wake] }, true)

theorem sendPgn_sent (cfg : Cfg) (s : St) (now dp pf ps prio sa : Nat) (msg : List Nat) (tl ff : Nat) (hl : 60 < msg.length) :
    Sent cfg now dp pf ps prio sa msg s (sendPgn cfg s now dp pf ps prio sa msg tl ff) := by
  unfold sendPgn
  dsimp only
  rw [if_neg (Nat.not_le.2 hl : ¬ msg.length ≤ Const.DL22.TP)]
  cases hb : ps == Const.Addr.GLOBAL || PGN.is_pdu2_format (PGN.ofFields 0 pf ps) with
  | true =>
    rw [if_pos rfl]
    cases hg : poolGet s.bamPool with
    | none => exact .refused (by rw [hb, if_pos rfl, hg])
    | some r => exact .bam r.1 r.2 hb hg
  | false =>
    rw [if_neg Bool.false_ne_true]
    cases hg : poolGet s.rtsPool with
    | none => exact .refused (by rw [hb, if_neg Bool.false_ne_true, hg])
    | some r => exact .rts r.1 r.2 hb hg

end J1939.Dll22
