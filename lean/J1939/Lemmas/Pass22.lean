/-
  J1939-22: what the send window loop does (`Win`), and what one background pass does to one send record (`tickSndOne`),
  by the state the record is in (`SndPass`).  The well-formedness and the pool-conservation invariants are case analyses
  on `SndPass`.  It does not record that a record is due (an over-approximation, which is what invariants want); the exact
  result of a due pass in a given state is an equation of Lemmas/Step22.lean.
-/
import J1939.Model.Dll22
namespace J1939.Dll22
open J1939 J1939.Gen

/-- broadcast-kind states of a send record (its number comes from the broadcast pool) -/
def KBam (st : Nat) : Prop := st = S_SENDING_BAM ∨ st = S_SENDING_EOM_STATUS
/-- connection-mode states (number from the RTS/CTS pool) -/
def KRts (st : Nat) : Prop :=
  st = S_WAITING_CTS ∨ st = S_SENDING_RTS_CTS ∨ st = S_WAITING_EOM_ACK ∨ st = S_EOM_ACK_RECEIVED ∨ st = S_FINISHED

theorem kinds_disjoint (st : Nat) (h1 : KBam st) (h2 : KRts st) : False := by
  unfold KRts at h2
  rcases h1 with rfl | rfl <;> exact absurd h2 (by decide)

theorem krts_waiting : KRts S_WAITING_CTS := Or.inl rfl
theorem krts_sending : KRts S_SENDING_RTS_CTS := Or.inr (Or.inl rfl)
theorem krts_waitack : KRts S_WAITING_EOM_ACK := Or.inr (Or.inr (Or.inl rfl))
theorem krts_ackrcvd : KRts S_EOM_ACK_RECEIVED := Or.inr (Or.inr (Or.inr (Or.inl rfl)))
theorem krts_finished : KRts S_FINISHED := Or.inr (Or.inr (Or.inr (Or.inr rfl)))

/-- how the send window loop, started on `b`, stops with `next = n`: the last segment went out (end-of-message status sent);
    the wait-on segment went out; one segment went out and a pacing interval is configured; nothing is left to send; or
    it raised (no chunk at index `n`, no wait-on segment stored) -/
inductive Win (cfg : Cfg) (now : Nat) (b : Snd) (n : Int) : Snd → Option PyErr → Prop
  | eom (h : n = b.numSegments) :
      Win cfg now b n { b with next := n, deadline := now + Const.T22.T5, state := S_WAITING_EOM_ACK } none
  | wait : Win cfg now b n { b with next := n, state := S_WAITING_CTS, deadline := now + Const.T22.T3 } none
  | paced (iv : Nat) (hiv : cfg.cmdtInterval = some iv) (h : n < b.numSegments) :
      Win cfg now b n { b with next := n, deadline := now + iv } none
  | done (h : (b.numSegments : Int) ≤ n) : Win cfg now b n { b with next := n } none
  | index (h : n < b.numSegments) (hp : pyIndex b.data n = none) : Win cfg now b n { b with next := n } (some .IndexError)
  | key (hw : b.waitOn = none) : Win cfg now b n { b with next := n } (some .KeyError)

theorem sendWindow_win (cfg : Cfg) (now : Nat) (fuel : Nat) (b : Snd) (o : List Out)
    (hf : b.next < b.numSegments → (b.numSegments - b.next).toNat < fuel) :
    ∃ n r o' e, sendWindow cfg now fuel b o = (r, o', e) ∧ b.next ≤ n ∧ Win cfg now b n r e := by
  induction fuel generalizing b o with
  | zero => exact ⟨b.next, b, o, none, rfl, Int.le_refl _, .done (Int.not_lt.mp fun h => absurd (hf h) (Nat.not_lt_zero _))⟩
  | succ fuel ih =>
    obtain ⟨pgn, prio, sess, ms, ns, data, st, dl, src, dst, nx, wo⟩ := b
    dsimp only at hf ⊢
    rw [sendWindow]
    by_cases hlt : nx < ns
    · rw [if_pos hlt]
      dsimp only
      cases hp : pyIndex data nx with
      | none => exact ⟨nx, _, o, _, rfl, Int.le_refl _, .index hlt hp⟩
      | some seg =>
        dsimp only
        have hn : nx ≤ nx + 1 := by omega
        by_cases hlast : (nx + 1 == (ns : Int)) = true
        · rw [if_pos hlast]; exact ⟨nx + 1, _, _, _, rfl, hn, .eom (eq_of_beq hlast)⟩
        rw [if_neg hlast]
        replace hlast : nx + 1 ≠ (ns : Int) := by simpa using hlast
        cases wo with
        | none => exact ⟨nx + 1, _, _, _, rfl, hn, .key rfl⟩
        | some w =>
          dsimp only
          by_cases hwt : (nx == w) = true
          · rw [if_pos hwt]; exact ⟨nx + 1, _, _, _, rfl, hn, .wait⟩
          rw [if_neg hwt]
          cases hiv : cfg.cmdtInterval with
          | some iv => exact ⟨nx + 1, _, _, _, rfl, hn, .paced iv hiv (by dsimp only; omega)⟩
          | none =>
            dsimp only
            obtain ⟨n, r, o', e, he, hn', hwin⟩ := ih ⟨pgn, prio, sess, ms, ns, data, st, dl, src, dst, nx + 1, some w⟩
              (o ++ [.tx (Tp22.dt Const.LUT_FD_DLC src dst sess (nx + 1).toNat seg 0)])
              (fun h => by have := hf hlt; dsimp only at h ⊢; omega)
            refine ⟨n, r, o', e, he, Int.le_trans hn hn', ?_⟩
            -- an outcome of the rest of the loop is the same outcome of the whole: the two records differ in `next` only
            cases hwin with
            | eom h => exact .eom h
            | wait => exact .wait
            | paced iv hiv h => exact .paced iv hiv h
            | done h => exact .done h
            | index h hp => exact .index h hp
            | key hw => exact .key hw
    · rw [if_neg hlt]; exact ⟨nx, _, o, none, rfl, Int.le_refl _, .done (Int.not_lt.mp hlt)⟩

inductive SndPass (cfg : Cfg) (now : Nat) (b : Snd) : Option Snd × List Out × Option PyErr × Option Nat × Release → Prop
  | unarmed (h : b.deadline = 0) : SndPass cfg now b (some b, [], none, none, .none)
  | early (h : now < b.deadline) : SndPass cfg now b (some b, [], none, some b.deadline, .none)
  | timeout (hs : b.state = S_WAITING_CTS) :
      SndPass cfg now b (none, [.tx (Tp22.abort b.src b.dest b.session Const.Abort22.TIMEOUT b.pgn)], none, none, .rts b.session)
  /-- the window loop ran.  A record it left SENDING with nothing more to send goes back to waiting for a CTS (repair of
      D2), which gives the record of `Win.wait`: so what the pass leaves is an outcome of the loop, and never `Win.done` -/
  | window (hs : b.state = S_SENDING_RTS_CTS) (n : Int) (hn : b.next ≤ n) (r : Snd) (e : Option PyErr) (hwin : Win cfg now b n r e)
      (hleft : e = none → r.state = S_SENDING_RTS_CTS → r.next < r.numSegments)
      (o : List Out) (w : Option Nat) (hw : ∀ d, w = some d → d = r.deadline) : SndPass cfg now b (some r, o, e, w, .none)
  | over (hs : b.state = S_WAITING_EOM_ACK ∨ b.state = S_EOM_ACK_RECEIVED ∨ b.state = S_FINISHED) :
      SndPass cfg now b (none, [], none, none, .rts b.session)
  | bamIndex (hs : b.state = S_SENDING_BAM) (h : pyIndex b.data b.next = none) :
      SndPass cfg now b (some b, [], some .IndexError, none, .none)
  | bamSeg (hs : b.state = S_SENDING_BAM) (seg : List Nat) (h : pyIndex b.data b.next = some seg)
      (hn : b.next + 1 < (b.numSegments : Int)) :
      SndPass cfg now b (some { b with next := b.next + 1, deadline := now + cfg.bamInterval },
        [.tx (Tp22.dt Const.LUT_FD_DLC b.src b.dest b.session (b.next + 1).toNat seg 0)], none, some (now + cfg.bamInterval), .none)
  | bamLast (hs : b.state = S_SENDING_BAM) (seg : List Nat) (h : pyIndex b.data b.next = some seg) :
      SndPass cfg now b (some { b with next := b.next + 1, state := S_SENDING_EOM_STATUS, deadline := now + cfg.bamInterval },
        [.tx (Tp22.dt Const.LUT_FD_DLC b.src b.dest b.session (b.next + 1).toNat seg 0)], none, some (now + cfg.bamInterval), .none)
  | eoms (hs : b.state = S_SENDING_EOM_STATUS) :
      SndPass cfg now b (none, [.tx (Tp22.eom_status b.src b.dest b.session b.messageSize b.numSegments b.pgn 0 0)], none, none,
        .bam b.session)
  | unknown (hb : ¬ KBam b.state) (hr : ¬ KRts b.state) : SndPass cfg now b (none, [], none, none, .none)

theorem tickSndOne_pass (cfg : Cfg) (now : Nat) (b : Snd) : SndPass cfg now b (tickSndOne cfg now b) := by
  unfold tickSndOne
  by_cases h : ¬ (b.deadline != 0) = true
  · rw [if_neg h]; exact .unarmed (by simpa using h)
  rw [if_pos (Classical.not_not.mp h)]
  by_cases h : b.deadline > now
  · rw [if_pos h]; exact .early h
  rw [if_neg h]
  by_cases h1 : (b.state == S_WAITING_CTS) = true
  · rw [if_pos h1]; exact .timeout (eq_of_beq h1)
  rw [if_neg h1]
  by_cases h2 : (b.state == S_SENDING_RTS_CTS) = true
  · rw [if_pos h2]
    replace h2 : b.state = S_SENDING_RTS_CTS := eq_of_beq h2
    dsimp only
    obtain ⟨n, r, o, e, he, hn, hwin⟩ := sendWindow_win cfg now
      (if b.next < (b.numSegments : Int) then (↑b.numSegments - b.next).toNat + 1 else 1) b [] (fun h => by rw [if_pos h]; omega)
    rw [he]
    dsimp only
    by_cases hc : (e.isNone && r.state == S_SENDING_RTS_CTS && decide (r.next ≥ (r.numSegments : Int))) = true
    · rw [if_pos hc]
      simp only [Bool.and_eq_true, Option.isNone_iff_eq_none] at hc
      obtain rfl := hc.1.1
      have hr : { r with state := S_WAITING_CTS, deadline := now + Const.T22.T3 } =
          ({ b with next := n, state := S_WAITING_CTS, deadline := now + Const.T22.T3 } : Snd) := by cases hwin <;> rfl
      rw [hr]
      exact .window h2 n hn _ none .wait (fun _ h => absurd h (show S_WAITING_CTS ≠ S_SENDING_RTS_CTS by decide)) _ _ (fun d hd => by cases hd; rfl)
    · rw [if_neg hc]
      exact .window h2 n hn r e hwin (fun he hs => by simpa [he, hs] using hc) _ _ (fun d hd => by split at hd <;> cases hd; rfl)
  rw [if_neg h2]
  by_cases h3 : (b.state == S_WAITING_EOM_ACK) = true
  · rw [if_pos h3]; exact .over (.inl (eq_of_beq h3))
  rw [if_neg h3]
  by_cases h4 : (b.state == S_EOM_ACK_RECEIVED) = true
  · rw [if_pos h4]; exact .over (.inr (.inl (eq_of_beq h4)))
  rw [if_neg h4]
  by_cases h5 : (b.state == S_SENDING_BAM) = true
  · rw [if_pos h5]
    replace h5 : b.state = S_SENDING_BAM := eq_of_beq h5
    cases hp : pyIndex b.data b.next with
    | none => exact .bamIndex h5 hp
    | some seg =>
      dsimp only
      by_cases hn : b.next + 1 < (b.numSegments : Int)
      · rw [if_pos hn]; exact .bamSeg h5 seg hp hn
      · rw [if_neg hn]; exact .bamLast h5 seg hp
  rw [if_neg h5]
  by_cases h6 : (b.state == S_SENDING_EOM_STATUS) = true
  · rw [if_pos h6]; exact .eoms (eq_of_beq h6)
  rw [if_neg h6]
  by_cases h7 : (b.state == S_FINISHED) = true
  · rw [if_pos h7]; exact .over (.inr (.inr (eq_of_beq h7)))
  rw [if_neg h7]
  simp only [beq_iff_eq] at h1 h2 h3 h4 h5 h6 h7
  exact .unknown (fun h => h.elim h5 h6) (fun h => h.elim h1 (·.elim h2 (·.elim h3 (·.elim h4 h7))))

end J1939.Dll22
