/-
  C19 — A second DM14 requester never disturbs or joins a running transaction.
  Model: Model/Dm14.lean (message level; tied to memory_access.py / Dm14Server.py by lock-step correspondence).

  The theorem is a NO-OP statement: while the server side of a node is bound to requester `a` (any of the shapes a
  running transaction goes through — `InTx`), handing it a DM14 from another source address, or from `a` with another
  pointer, leaves the node EXACTLY as it was, calls neither application callback, and emits at most DM15
  'operation failed' PDUs addressed to the sender of that DM14.  Because the state is equal, everything the running
  transaction does afterwards — its PDUs, its result, its completion — is the same as without the intruder, for one
  or any number of intruding requests (`c19_intruders_noop`).
-/
import J1939.Props.C17
namespace J1939.Props.C19
open J1939 J1939.Gen J1939.Dm14

/-- the server side of node `n` is inside a transaction with requester `a` -/
structure InTx (a : Nat) (n : Node) : Prop where
  sa : n.s.sa = some a
  notBusy : n.s.busy = false
  notIdle : n.s.state ≠ .idle
  started : n.f = .requestStarted → n.s.state = .waitKey
  short : n.subs.length < 64
  len8 : n.s.length = 8          -- the DM14 that opened the transaction had the 8 bytes J1939-73 prescribes

/-- the intruding request: a DM14 that is not the running requester's request for the running pointer -/
def Intrudes (a : Nat) (n : Node) (p : Pdu) : Prop :=
  p.pgn = PGN_DM14 ∧ 8 ≤ p.data.length ∧
  (p.sa ≠ a ∨ ∃ ad, n.s.address = some ad ∧ ad ≠ Py.slice p.data 2 (n.s.length - 2))

/-- the only thing the server may say to an intruder: DM15, status 'operation failed', to the intruder's address -/
def BusyAnswer (p : Pdu) (o : Out) : Prop :=
  ∃ data, o = .tx PGN_DM15 (p.sa &&& 0xFF) 6 data ∧ (Py.idx data 1 >>> 1) &&& 7 = ST_OPER_FAILED

/-- result of a handler that saw an intruding request: same node, no exception, only busy answers -/
def Quiet (n : Node) (p : Pdu) (r : Res) : Prop :=
  r.n = n ∧ r.err = none ∧ ∀ o ∈ r.outs, BusyAnswer p o

theorem node_busy_eta (n : Node) (h : n.s.busy = false) : { n with s := { n.s with busy := false } } = n := by
  cases n with | mk subs q s f ss hp => cases s; simp_all

theorem busyAnswer_error (p : Pdu) (direct e edcp : Nat) : BusyAnswer p (.tx PGN_DM15 (p.sa &&& 0xFF) 6 (C18.errorDm15 direct e edcp)) :=
  ⟨_, rfl, status_failed direct e edcp⟩

/-- the server's DM14 handler rejects the intruding request and stays as it is (`error` may be any pending code),
    whatever the busy flag `b` is when it is called: the facade raises it in state waitQuery and the handler lowers it
    again; with `b := n.s.busy` the node handed over is `n` itself (structure eta) -/
theorem sParse_intruder (a : Nat) (n : Node) (seedIn : Nat) (p : Pdu) (hin : InTx a n) (hp : Intrudes a n p) (b : Bool) :
    Quiet n p (sParseDm14 { n with s := { n.s with busy := b } } seedIn p) := by
  obtain ⟨hpgn, hlen, hwho⟩ := hp
  have hrej : sRejects { n.s with busy := b } p = true :=
    (sRejects_iff _ p).mpr (hwho.elim (fun h => .inl ⟨a, hin.sa, h⟩) fun h => .inr (.inl h))
  rw [sParseDm14_rejects { n with s := { n.s with busy := b } } seedIn p hpgn hlen hin.len8 hrej]
  exact ⟨node_busy_eta n hin.notBusy, rfl, by simp [busyAnswer_error]⟩

theorem quiet_noop (n : Node) (p : Pdu) : Quiet n p { n := n } := ⟨rfl, rfl, by intro o ho; cases ho⟩

theorem fListen_intruder (env : Env) (a : Nat) (n : Node) (seedIn : Nat) (accept : Bool) (p : Pdu) (hin : InTx a n)
    (hp : Intrudes a n p) : Quiet n p (fListen env n seedIn accept p) := by
  unfold fListen
  -- the DM14 handler's result in the states requestStarted (`S`) and waitQuery (`Q`)
  extract_lets rI _ nI cI rS _ nS cS fS _ rQ
  have hS : Quiet n p rS := sParse_intruder a n seedIn p hin hp n.s.busy
  have hQ : Quiet n p rQ := sParse_intruder a n seedIn p hin hp true
  rw [if_neg (by simp [hp.1])]
  cases hf : n.f with
  | idle =>
    rw [if_pos (by simpa using hin.notIdle)]
    exact quiet_noop n p
  | requestStarted =>
    -- rejected without an exception, and the server still waits for the key
    have hst : (rS.n.s.state == .sendProceed) = false := by rw [hS.1, hin.started hf]; rfl
    simp only [hS.2.1, hst, Bool.false_eq_true, if_false]
    exact hS
  | waitQuery =>
    refine ⟨?_, hQ.2⟩
    show ({ rQ.n with s := { rQ.n.s with busy := false } } : Node) = n
    rw [hQ.1]
    exact node_busy_eta n hin.notBusy
  | waitResponse => exact quiet_noop n p

theorem runCb_intruder (env : Env) (a : Nat) (n : Node) (seedIn : Nat) (accept : Bool) (p : Pdu) (hin : InTx a n)
    (hp : Intrudes a n p) (c : Cb) : Quiet n p (runCb env n seedIn accept p c) := by
  cases c with
  | listen => exact fListen_intruder env a n seedIn accept p hin hp
  | srv14 => exact sParse_intruder a n seedIn p hin hp n.s.busy
  | app k => exact quiet_noop n p
  | srv16 | q15 | q16 =>
    -- handlers of the other two PGNs do not look at a DM14
    simp only [runCb, sParseDm16_foreign, qParseDm15_foreign, qParseDm16_foreign, hp.1, ne_eq, pgn_distinct, not_false_eq_true]
    exact quiet_noop n p

theorem notifyLoop_intruder (env : Env) (a : Nat) (n : Node) (seedIn : Nat) (accept : Bool) (p : Pdu) (hin : InTx a n)
    (hp : Intrudes a n p) (fuel i : Nat) (o : List Out) (hf : n.subs.length < fuel + i) (hi : i ≤ n.subs.length)
    (ho : ∀ x ∈ o, BusyAnswer p x) : Quiet n p (notifyLoop env seedIn accept p fuel i n o) := by
  induction fuel generalizing i o with
  | zero => omega      -- cannot happen: the list is shorter than the fuel
  | succ fuel ih =>
    unfold notifyLoop
    cases hc : n.subs[i]? with
    | none => exact ⟨rfl, rfl, ho⟩
    | some c =>
      obtain ⟨h1, h2, h3⟩ := runCb_intruder env a n seedIn accept p hin hp c
      simp only [h2, h1]
      obtain ⟨hlt, -⟩ := List.getElem?_eq_some_iff.mp hc
      exact ih (i + 1) _ (by omega) (by omega) (List.forall_mem_append.mpr ⟨ho, h3⟩)

/-- C19, ONE INTRUDER: handing the intruding DM14 to a node whose server is bound to requester `a` — at any point of
    the transaction, in any facade state, with any handlers registered — changes NOTHING, runs neither application
    callback, raises nothing, and emits only DM15 'operation failed' PDUs addressed to the intruder -/
theorem c19_intruder_noop (env : Env) (a : Nat) (n : Node) (seedIn : Nat) (accept : Bool) (p : Pdu) (hin : InTx a n)
    (hp : Intrudes a n p) (hb : Py.idx p.data 1 < 256) :
    (deliver env n seedIn accept p).n = n ∧ (deliver env n seedIn accept p).err = none ∧
    (∀ o ∈ (deliver env n seedIn accept p).outs, BusyAnswer p o) ∧
    (∀ o ∈ (deliver env n seedIn accept p).outs, o ≠ .notify ∧ ∀ c ad pt l k ky sa lv sd, o ≠ .proceed c ad pt l k ky sa lv sd) := by
  have h := notifyLoop_intruder env a n seedIn accept p hin hp 64 0 [] (by have := hin.short; omega) (by omega) nofun
  refine ⟨h.1, h.2.1, h.2.2, ?_⟩
  intro o ho
  obtain ⟨d, hd, _⟩ := h.2.2 o ho
  subst hd
  exact ⟨nofun, fun _ _ _ _ _ _ _ _ _ => nofun⟩

/-- C19, ANY NUMBER OF INTRUDERS, NON-DISTURBANCE: after any sequence of intruding requests the node is still exactly
    the node it was — so whatever the running transaction does next is what it would have done without them -/
theorem c19_intruders_noop (env : Env) (a : Nat) (n : Node) (hin : InTx a n) (ps : List (Pdu × Nat × Bool))
    (hps : ∀ x ∈ ps, Intrudes a n x.1 ∧ Py.idx x.1.data 1 < 256) :
    ps.foldl (fun m x => (deliver env m x.2.1 x.2.2 x.1).n) n = n := by
  refine List.foldlRecOn ps _ (motive := (· = n)) rfl fun m hm x hx => ?_
  rw [hm]
  exact (c19_intruder_noop env a n x.2.1 x.2.2 x.1 hin (hps x hx).1 (hps x hx).2).1

/-- nothing listens for DM14 (the phases between the request and the application's answer in a transaction without
    seed/key): the intruding request is not even looked at -/
theorem c19_unsubscribed_silent (env : Env) (n : Node) (seedIn : Nat) (accept : Bool) (p : Pdu)
    (h : n.subs = []) : deliver env n seedIn accept p = { n := n, outs := [], err := none } := by
  simp [deliver, notifyLoop, h]

/-- NON-VACUITY: the shapes a served request goes through satisfy `InTx` — after the opening DM14 of a request without
    seed/key (application consulted, nothing subscribed) and with seed/key (waiting for the key) -/
example : InTx 0x21 (deliver ⟨id, id⟩ { hasProceed := true } 0 true ⟨PGN_DM14, 0x21, [1, 0x13, 3, 0, 0, 0x92, 7, 0]⟩).n :=
  ⟨by decide, by decide, by decide, by decide, by decide, by decide⟩
example : InTx 0x21 (deliver ⟨id, id⟩ { seedSecurity := true, s := { hasKey := true } } 0x1234 true
    ⟨PGN_DM14, 0x21, [1, 0x13, 3, 0, 0, 0x92, 7, 0]⟩).n :=
  ⟨by decide, by decide, by decide, by decide, by decide, by decide⟩
example : Intrudes 0x21 (deliver ⟨id, id⟩ { hasProceed := true } 0 true ⟨PGN_DM14, 0x21, [1, 0x13, 3, 0, 0, 0x92, 7, 0]⟩).n
    ⟨PGN_DM14, 0x22, [1, 0x13, 3, 0, 0, 0x92, 7, 0]⟩ := ⟨rfl, by decide, Or.inl (by decide)⟩

/-- EVERY SERVER-SIDE STATE OF A TRANSACTION IS `InTx`: the states the whole-transaction theorems of C17 go through —
    after the opening DM14 (application consulted), while a multi-packet DM16 is on its way, while the written data
    is awaited, and while the closing DM14 is awaited — all satisfy the hypothesis of `c19_intruder_noop`; so an
    intruding DM14 at ANY point between the opening and the closing DM14 of those transactions is a no-op -/
theorem c19_intx_after_open (s0 : Node) (hcl : C17.Clean s0) (cl count direct cmd address level : Nat) :
    InTx cl { s0 with subs := [], f := .waitResponse,
                      s := { s0.s with sa := some cl, state := .sendProceed, status := ST_PROCEED, length := 8,
                                       address := some (Py.toBytesLE 4 address), direct := direct, command := cmd,
                                       pointerType := direct % 2, objectCount := count, accessLevel := level,
                                       data := C17.openDm14 count direct cmd address level } } :=
  ⟨rfl, hcl.busy, by simp, by simp, by simp, rfl⟩

theorem c19_intx_closing (s : Node) (cl : Nat) (h : C17.Closing s cl) : InTx cl s := by
  obtain ⟨hf, hsubs, hst, hsa, hq, hbusy, hlen⟩ := h
  refine ⟨hsa, hbusy, by rw [hst]; simp, by rw [hf]; simp, ?_, hlen⟩
  rcases hsubs with hsubs | hsubs <;> rw [hsubs] <;> simp

theorem c19_intx_read_long (s : Node) (cl : Nat) (hf : s.f = .idle) (hsubs : s.subs = [.srv16, .listen]) (hst : s.s.state = .sendProceed)
    (hsa : s.s.sa = some cl) (hb : s.s.busy = false) (hl : s.s.length = 8) : InTx cl s :=
  ⟨hsa, hb, by rw [hst]; simp, by rw [hf]; simp, by rw [hsubs]; simp, hl⟩

theorem c19_intx_write_wait (s : Node) (cl : Nat) (hf : s.f = .idle) (hsubs : s.subs = [.srv16]) (hst : s.s.state = .waitDm16)
    (hsa : s.s.sa = some cl) (hb : s.s.busy = false) (hl : s.s.length = 8) : InTx cl s :=
  ⟨hsa, hb, by rw [hst]; simp, by rw [hf]; simp, by rw [hsubs]; simp, hl⟩

end J1939.Props.C19
