/-
  C12 — Timers fire when due and callback registrations mean what they say.
  Statements about the ECU core model (Model/Ecu.lean): timer list, subscriber list, one pass of the background
  loop, for EVERY state satisfying the reachable-state invariant `WF`, every time, every table of callback
  behaviours (callbacks may add/remove timers, subscribe/unsubscribe and take time).
-/
import J1939.Lemmas.EcuPass
namespace J1939.Props.C12
open J1939 J1939.Ecu

/-- reachable-state invariant: unique event identities, every event on the grid `born + k·delta` (k ≥ 1, delta > 0),
    every `add_timer` a scripted callback performs has a positive period -/
def WF (c : Core) : Prop := c.UidOk ∧ (∀ t ∈ c.timers, t.OnGrid) ∧ CbsPos c

/-! ### `WF` holds initially and is preserved by every operation: it holds in every reachable state -/

theorem c12_wf_init (cbs : List UserCb) (h : ∀ b ∈ cbs, ∀ d cb ck, TOp.add d cb ck ∈ b.ops → 0 < d) :
    WF { cbs := cbs } := by
  exact ⟨⟨List.nodup_nil, fun t ht => (by cases ht)⟩, fun t ht => (by cases ht), h⟩

theorem c12_wf_ops (c : Core) (clk : Nat) (ops : List TOp) (h : WF c)
    (hpos : ∀ d cb ck, TOp.add d cb ck ∈ ops → 0 < d) : WF (c.applyOps clk ops).1 := by
  obtain ⟨hu, hg, hc⟩ := h
  refine ⟨applyOps_uidOk c clk ops hu, ?_, by unfold CbsPos; rw [applyOps_cbs]; exact hc⟩
  exact applyOps_forall Timer.OnGrid c clk ops
    (fun d cb ck hm clk' uid _ => ⟨hpos d cb ck hm, 1, Nat.le_refl _, by simp⟩) hg

/-- add_timer / remove_timer from the application thread -/
theorem c12_wf_addTimer (c : Core) (now delta cb ck : Nat) (h : WF c) (hd : 0 < delta) : WF (c.addTimer now delta cb ck) :=
  c12_wf_ops c now [TOp.add delta cb ck] h fun d cb' ck' hm => by cases List.mem_singleton.mp hm; exact hd

theorem c12_wf_removeTimer (c : Core) (cb : Nat) (h : WF c) : WF (c.removeTimer cb) :=
  c12_wf_ops c 0 [TOp.remove cb] h fun _ _ _ hm => nomatch List.mem_singleton.mp hm

theorem c12_wf_pass (c : Core) (now clk w : Nat) (h : WF c) : WF (c.pass now clk w).1 := by
  have inv := pass_inv c now clk w h.1 h.2.1 h.2.2
  obtain ⟨w', sl, hp, _⟩ := pass_spec c now clk w
  rw [hp]
  exact ⟨inv.uid, inv.grid, inv.cbs⟩

/-- NOT EARLY: a callback registered with add_timer(delta) at time `born` is called only in a pass whose start time
    is at least `born + delta` (and its deadline has been reached) -/
theorem c12_not_early (c : Core) (now clk w : Nat) (h : WF c) (ev : Timer)
    (hcall : Obs.call ev ∈ (c.pass now clk w).2.2.2) : ev.born + ev.delta ≤ now ∧ ev.deadline ≤ now := by
  obtain ⟨w', sl, hp, _⟩ := pass_spec c now clk w
  rw [hp] at hcall
  exact (pass_inv c now clk w h.1 h.2.1 h.2.2).due ev hcall

/-- WAKE COVERS: when a pass decides to sleep, the sleep ends no later than the earliest deadline in the timer list
    (and no later than the data link layer's wake-up); a pass that does not sleep (`spin`, `woken`) is followed by
    another pass at once.  Hence, in an idle ECU, every timer is served by its deadline plus scheduling latency. -/
theorem c12_wake_covers (c : Core) (now clk w : Nat) (h : WF c) (d : Nat)
    (hs : (c.pass now clk w).2.2.1 = Sleep.sleep d) :
    0 < d ∧ (c.pass now clk w).2.1 + d ≤ w ∧
    ∀ t ∈ (c.pass now clk w).1.timers, (c.pass now clk w).2.1 + d ≤ t.deadline := by
  have inv := pass_inv c now clk w h.1 h.2.1 h.2.2
  have hle := inv.le
  obtain ⟨w', sl, hp, hsl⟩ := pass_spec c now clk w
  rw [hp] at hs ⊢
  obtain ⟨hgt, hw, hd⟩ := hsl d hs
  dsimp only
  refine ⟨by omega, by omega, fun t ht => ?_⟩
  rcases inv.cover hw t ht with hm | hacc
  · cases hm
  · omega

/-- NO DRIFT / ONCE PER PERIOD: after a periodic callback has been served at `now`, its next deadline is the first
    grid point `deadline + k·delta` strictly after `now` — it is not due again in a pass at the same time, it is
    at most one period away, and the grid `born + k·delta` is kept by `c12_wf_pass` -/
theorem c12_periodic_next (dl delta now : Nat) (hd : 0 < delta) (hdue : dl ≤ now) :
    now < catchUp dl delta now ∧ catchUp dl delta now ≤ now + delta ∧
    ∃ k, 1 ≤ k ∧ catchUp dl delta now = dl + k * delta := catchUp_spec dl delta now hd hdue

/-- REMOVE ALL: after remove_timer(cb) no registration of cb remains, however many there were and wherever in the
    list; every other registration is kept, in order -/
theorem c12_remove_timer_all (c : Core) (cb : Nat) :
    (c.removeTimer cb).timers = c.timers.filter (fun t => t.cb != cb) := removeTimer_timers c cb

theorem c12_unsubscribe_all (c : Core) (cb : Nat) :
    (c.unsubscribe cb).subs = c.subs.filter (fun d => d.cb != cb) :=
  removeLoop_eq_filter (unsubLoop cb) (fun d => d.cb == cb) (fun d y => y == d) (fun _ => rfl) (fun _ _ _ => rfl)
    (by simp) (fun x y h => by rw [beq_iff_eq.mp h]) [] c.subs (by simp)

/-- NEVER AGAIN: if no registration of `cb` is in the list and no callback re-registers it, `cb` is not called in
    the pass and is still unregistered afterwards (with `c12_remove_timer_all`: never after remove_timer returns;
    with the one-shot branch of the loop: never after returning non-True) -/
theorem c12_not_called_when_unregistered (c : Core) (now clk w cb : Nat)
    (hnone : ∀ t ∈ c.timers, t.cb ≠ cb)
    (hnoadd : ∀ b ∈ c.cbs, ∀ d ck, TOp.add d cb ck ∉ b.ops) :
    (∀ ev, Obs.call ev ∈ (c.pass now clk w).2.2.2 → ev.cb ≠ cb) ∧ (∀ t ∈ (c.pass now clk w).1.timers, t.cb ≠ cb) := by
  have := timerLoop_forall (fun t => t.cb ≠ cb) now (fun t ht => ht) (c.timers.map (·.uid)) c clk w []
    (fun b hb d cb' ck hm clk' uid he => hnoadd b hb d ck (he ▸ hm)) hnone (fun ev hm => nomatch hm)
  obtain ⟨w', sl, hp, _⟩ := pass_spec c now clk w
  rw [hp]; exact ⟨this.2, this.1⟩

/-- a one-shot (non-True) callback's event is gone after the pass that served it -/
theorem c12_one_shot_removed (c : Core) (now clk w : Nat) (h : WF c) (ev : Timer)
    (hcall : Obs.call ev ∈ (c.pass now clk w).2.2.2) (hret : (c.cbOf ev.cb).ret = false) :
    ∀ t ∈ (c.pass now clk w).1.timers, t.uid ≠ ev.uid := by
  obtain ⟨w', sl, hp, _⟩ := pass_spec c now clk w
  rw [hp] at hcall ⊢
  exact ((pass_inv c now clk w h.1 h.2.1 h.2.2).gone ev hcall hret).2

/-- NO SUPPRESSION: every timer that is registered and due at the start of a pass is called in that pass, whatever
    else expires, is added or re-armed in the same pass (callbacks that do not call remove_timer) -/
theorem c12_every_due_timer_called (c : Core) (now clk w : Nat) (h : WF c) (hno : NoRemoveOps c)
    (t : Timer) (ht : t ∈ c.timers) (hdue : t.deadline ≤ now) : Obs.call t ∈ (c.pass now clk w).2.2.2 := by
  obtain ⟨w', sl, hp, _⟩ := pass_spec c now clk w
  rw [hp]
  exact ((pass_inv c now clk w h.1 h.2.1 h.2.2).served hno t ht hdue).resolve_right fun h => nomatch h.1

/-- INDEPENDENCE: registering or removing one timer leaves every other registration exactly as it was -/
theorem c12_independence (c : Core) (now delta cb ck : Nat) (t : Timer) (ht : t ∈ c.timers) :
    t ∈ (c.addTimer now delta cb ck).timers ∧ (t.cb ≠ cb → t ∈ (c.removeTimer cb).timers) := by
  refine ⟨by simp [Core.addTimer, ht], ?_⟩
  intro hne
  rw [removeTimer_timers]
  exact List.mem_filter.mpr ⟨ht, by simpa using hne⟩

/-- every operation that changes the timer list wakes the background thread (so the new minimum is recomputed) -/
theorem c12_ops_wake (c : Core) (now delta cb ck : Nat) :
    0 < (c.addTimer now delta cb ck).wake ∧ 0 < (c.removeTimer cb).wake := by
  simp [Core.addTimer, Core.removeTimer]

/-! ### non-vacuity: a concrete reachable state with duplicates, a periodic and a one-shot callback -/
def exCore : Core :=
  ((({ cbs := [{ ret := true }, { ret := false, ops := [TOp.add 5000 0 7] }] } : Core).addTimer 1000 100000 0 0).addTimer 1000 100000 0 0).addTimer
    1000 50000 1 3

example : WF exCore :=
  c12_wf_addTimer _ _ _ _ _ (c12_wf_addTimer _ _ _ _ _ (c12_wf_addTimer _ _ _ _ _
    (c12_wf_init _ (by intro b hb d cb ck hm; simp at hb; rcases hb with rfl | rfl <;> simp at hm; omega)) (by decide)) (by decide)) (by decide)
example : ((exCore.removeTimer 0).timers.map (·.cb)) = [1] := by decide
example : (exCore.pass 51000 51000 5051000).2.2.1 = Sleep.woken := by decide

end J1939.Props.C12
