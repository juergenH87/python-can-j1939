/-
  C10 — Transport capacity is conserved over any history of good and failed transfers.
  J1939-21 part (Model/Dll21.lean): one transfer per (source, destination) pair; refusal exactly while busy;
  inbound sessions never touch the outbound table; every send record is released by the background pass.
  J1939-22 part (Model/Dll22.lean, second half of this file): the two session pools are conserved over every history.
-/
import J1939.Lemmas.Dll21Tick
import J1939.Lemmas.Cons22
import J1939.Props.C07
import J1939.Props.C01
import J1939.Props.C02
namespace J1939.Props.C10
open J1939 J1939.Gen J1939.Dll21

/-- the destination a message of more than 8 bytes is sent to: PS for a PDU1 PGN with PS ≠ 255, else global -/
def destOf (pf ps : Nat) : Nat :=
  if ps == Const.Addr.GLOBAL || PGN.is_pdu2_format (PGN.ofFields 0 pf ps) then Const.Addr.GLOBAL else ps

/-- REFUSAL IFF BUSY: `send_pgn` of more than 8 bytes returns False exactly when a transfer on that (SA, DA) pair is in
    the send table; a refused call emits nothing, raises nothing and leaves the state EQUAL -/
theorem c10_refusal_iff_busy (cfg : Cfg) (s : St) (now dp pf ps prio sa : Nat) (data : List Nat) (hl : 8 < data.length) :
    ((sendPgn cfg s now dp pf ps prio sa data).2 = false ↔ s.snd.contains (Tp21.buffer_hash sa (destOf pf ps)) = true) ∧
    ((sendPgn cfg s now dp pf ps prio sa data).2 = false →
        (sendPgn cfg s now dp pf ps prio sa data).1.st = s ∧ (sendPgn cfg s now dp pf ps prio sa data).1.outs = [] ∧
        (sendPgn cfg s now dp pf ps prio sa data).1.err = none) := by
  have h : Sent now (Tp21.buffer_hash sa (destOf pf ps)) _ s _ := sendPgn_sent cfg s now dp pf ps prio sa data
  generalize sendPgn cfg s now dp pf ps prio sa data = r at h ⊢
  cases h with
  | short h => exact absurd hl h
  | refused _ hk => exact ⟨⟨fun _ => hk, fun _ => rfl⟩, fun _ => ⟨rfl, rfl, rfl⟩⟩
  | opened _ hk => exact ⟨⟨fun h => (by cases h), fun h => (by rw [hk] at h; cases h)⟩, fun h => (by cases h)⟩

/-- an accepted call occupies exactly its own pair and no other -/
theorem c10_accept_occupies (cfg : Cfg) (s : St) (now dp pf ps prio sa : Nat) (data : List Nat) (hl : 8 < data.length)
    (hacc : (sendPgn cfg s now dp pf ps prio sa data).2 = true) (k : Nat) :
    (sendPgn cfg s now dp pf ps prio sa data).1.st.snd.contains k =
      (k == Tp21.buffer_hash sa (destOf pf ps) || s.snd.contains k) := by
  have h : Sent now (Tp21.buffer_hash sa (destOf pf ps)) _ s _ := sendPgn_sent cfg s now dp pf ps prio sa data
  generalize sendPgn cfg s now dp pf ps prio sa data = r at h hacc ⊢
  cases h with
  | short h => exact absurd hl h
  | refused => cases hacc
  | opened => exact PyDict.contains_set ..

/-- short messages never use the tables: always accepted, state unchanged -/
theorem c10_short_never_refused (cfg : Cfg) (s : St) (now dp pf ps prio sa : Nat) (data : List Nat) (hl : data.length ≤ 8) :
    (sendPgn cfg s now dp pf ps prio sa data).2 = true ∧ (sendPgn cfg s now dp pf ps prio sa data).1.st = s := by
  have h := sendPgn_sent cfg s now dp pf ps prio sa data
  generalize sendPgn cfg s now dp pf ps prio sa data = r at h ⊢
  cases h with
  | short => exact ⟨rfl, rfl⟩
  | refused h | opened h => omega

/-- INBOUND NEVER TOUCHES OUTBOUND: handling an RTS, a BAM announcement or any TP.DT leaves the send table as it is -/
theorem c10_dt_keeps_snd (s : St) (now : Nat) (mid : MessageId) (dest : Nat) (data : List Nat) :
    (processDt s now mid dest data).st.snd = s.snd :=
  (processDt_rx s now mid dest data).snd_eq

theorem c10_rts_bam_keep_snd (cfg : Cfg) (s : St) (now : Nat) (mid : MessageId) (dest : Nat) (data : List Nat)
    (h : Tp21.cm_control data = Const.CM21.RTS ∨ Tp21.cm_control data = Const.CM21.BAM) :
    (processCm cfg s now mid dest data).st.snd = s.snd := by
  unfold processCm
  dsimp only
  by_cases hl : data.length < 8
  · rw [if_pos hl]
  rw [if_neg hl]
  rcases h with h | h <;> rw [h]
  · rw [if_pos (by decide)]
    split <;> rfl
  · rw [if_neg (by decide), if_neg (by decide), if_neg (by decide), if_pos (by decide)]

/-- and the receive side of the background pass never touches the send table either -/
theorem c10_tickRcv_keeps_snd (now : Nat) (ks : List Nat) (s : St) (nw : Nat) (o : List Out) :
    (tickRcv now ks s nw o).1.snd = s.snd :=
  (tickRcv_keeps now ks s nw o).1

/-- PEER ABORT RELEASES PROMPTLY: an abort from the responder while the originator waits for a CTS marks the record
    finished, due at once, AND wakes the background thread (without the wake-up the pair stayed blocked until the T3
    deadline the thread was sleeping towards — defect D25); the pass that follows deletes the record without a frame -/
theorem c10_abort_releases (cfg : Cfg) (s : St) (now : Nat) (mid : MessageId) (dest : Nat) (data : List Nat) (b : Snd)
    (hl : 8 ≤ data.length) (hc : Tp21.cm_control data = Const.CM21.ABORT)
    (hg : s.snd.get? (Tp21.buffer_hash dest mid.source_address) = some b) (hs : b.state = S_WAITING_CTS) :
    Out.wake ∈ (processCm cfg s now mid dest data).outs ∧
    (processCm cfg s now mid dest data).st.snd.get? (Tp21.buffer_hash dest mid.source_address)
      = some { b with state := S_FINISHED, deadline := now } ∧
    (∀ now', now ≤ now' → 0 < now → tickSndOne cfg now' { b with state := S_FINISHED, deadline := now } = (none, [], none, none)) := by
  have e : processCm cfg s now mid dest data =
      { st := { s with snd := s.snd.set (Tp21.buffer_hash dest mid.source_address) { b with state := S_FINISHED, deadline := now } },
        outs := [.wake] } := by
    unfold processCm
    -- control byte ABORT (not RTS, CTS, EndOfMsgACK or BAM: `Const21`), a record that waits for a CTS
    simp only [Nat.not_lt.2 hl, if_false, hc, beq_iff_eq, cm21_abort_ne_rts, cm21_abort_ne_cts, cm21_abort_ne_eom_ack,
      cm21_abort_ne_bam, if_true, hg, hs]
  rw [e]
  exact ⟨List.mem_singleton_self _, PyDict.get?_set_self _ _ _,
    fun now' h1 h0 => tickSndOne_finished cfg now' rfl (Nat.ne_of_gt h0) h1⟩

theorem sendPgn_get?_other (cfg : Cfg) (s : St) (now dp pf ps prio sa : Nat) (data : List Nat) (k : Nat)
    (hk : k ≠ Tp21.buffer_hash sa (destOf pf ps)) :
    (sendPgn cfg s now dp pf ps prio sa data).1.st.snd.get? k = s.snd.get? k ∧
    (sendPgn cfg s now dp pf ps prio sa data).1.st.rcv = s.rcv := by
  have h : Sent now (Tp21.buffer_hash sa (destOf pf ps)) _ s _ := sendPgn_sent cfg s now dp pf ps prio sa data
  generalize sendPgn cfg s now dp pf ps prio sa data = r at h ⊢
  cases h with
  | short | refused => exact ⟨rfl, rfl⟩
  | opened => exact ⟨PyDict.get?_set_ne _ _ _ _ hk, rfl⟩

/-- A SEND NEVER DISTURBS ANOTHER PAIR'S TRANSFER: whatever `send_pgn` is called with, the transfer in flight between any
    OTHER (source, destination) pair keeps its record unchanged (uses the injectivity of the session key regenerated
    from the source, `C01.c01_session_key_injective`) and no inbound session is touched -/
theorem c10_send_keeps_other_pairs (cfg : Cfg) (s : St) (now dp pf ps prio sa : Nat) (data : List Nat) (sa' da' : Nat)
    (h1 : sa < 256) (h2 : destOf pf ps < 256) (h3 : sa' < 256) (h4 : da' < 256) (hne : ¬ (sa' = sa ∧ da' = destOf pf ps)) :
    (sendPgn cfg s now dp pf ps prio sa data).1.st.snd.get? (Tp21.buffer_hash sa' da') = s.snd.get? (Tp21.buffer_hash sa' da') ∧
    (sendPgn cfg s now dp pf ps prio sa data).1.st.rcv = s.rcv := by
  apply sendPgn_get?_other
  intro h
  exact hne (J1939.Props.C01.c01_session_key_injective sa' da' sa (destOf pf ps) h3 h4 h1 h2 h)

/-- hypotheses satisfiable and the conclusion non-trivial: 0x80 → 0x90 is accepted while 0x80 → 0x91 is in flight -/
example : destOf 239 0x90 < 256 ∧ ¬ ((0x80 : Nat) = 0x80 ∧ (0x91 : Nat) = destOf 239 0x90) ∧
    (sendPgn {} (sendPgn {} {} 1000 0 239 0x91 6 0x80 (List.range 20)).1.st 2000 0 239 0x90 6 0x80 (List.range 30)).2 = true := by
  refine ⟨by decide, by decide, by decide⟩

/-- TRANSPORT FRAMES OF ONE PEER PAIR NEVER TOUCH ANOTHER PAIR'S SESSIONS: any TP.CM (RTS, CTS, EOM-ACK, BAM, abort,
    unknown control byte, any 8 bytes) or TP.DT from `src` to `dest` leaves the inbound session of every other
    (source, destination) pair and the outbound session of every pair other than (dest, src) exactly as it was —
    a peer cannot advance, corrupt, complete or free a transfer that is not its own -/
theorem c10_frames_keep_other_pairs (cfg : Cfg) (s : St) (now : Nat) (mid : MessageId) (dest : Nat) (data : List Nat) (sa' da' : Nat)
    (h1 : mid.source_address < 256) (h2 : dest < 256) (h3 : sa' < 256) (h4 : da' < 256) :
    (¬ (sa' = mid.source_address ∧ da' = dest) →
      (processCm cfg s now mid dest data).st.rcv.get? (Tp21.buffer_hash sa' da') = s.rcv.get? (Tp21.buffer_hash sa' da') ∧
      (processDt s now mid dest data).st.rcv.get? (Tp21.buffer_hash sa' da') = s.rcv.get? (Tp21.buffer_hash sa' da')) ∧
    (¬ (sa' = dest ∧ da' = mid.source_address) →
      (processCm cfg s now mid dest data).st.snd.get? (Tp21.buffer_hash sa' da') = s.snd.get? (Tp21.buffer_hash sa' da') ∧
      (processDt s now mid dest data).st.snd = s.snd) := by
  refine ⟨fun hne => ⟨?_, ?_⟩, fun hne => ⟨?_, c10_dt_keeps_snd s now mid dest data⟩⟩
  · exact (Dll21.processCm_rx cfg s now mid dest data).rcv_get? _
      (fun h => hne (J1939.Props.C01.c01_session_key_injective sa' da' mid.source_address dest h3 h4 h1 h2 h))
  · exact (Dll21.processDt_rx s now mid dest data).get? _
      (fun h => hne (J1939.Props.C01.c01_session_key_injective sa' da' mid.source_address dest h3 h4 h1 h2 h))
  · exact (Dll21.processCm_rx cfg s now mid dest data).snd_get? _
      (fun h => hne (J1939.Props.C01.c01_session_key_injective sa' da' dest mid.source_address h3 h4 h2 h1 h))

end J1939.Props.C10

namespace J1939.Props.C10
open J1939 J1939.Gen J1939.Dll22

/-- J1939-22, EVERY EXIT OF AN ORIGINATOR SESSION RETURNS ITS NUMBER: whenever the background pass deletes a send
    record — timeout while waiting for CTS, timeout or arrival of the end-of-message acknowledgement, peer abort
    (FINISHED, repair of D22), end of a broadcast — it returns exactly that record's session number to the pool of its
    kind.  With `c02_accept_takes_one` (an accepted message takes one number) and `c02_notify_keeps_pools` (no received
    frame touches a pool) this is the conservation of the 8 + 4 capacity -/
theorem c10_22_deleted_returns_number (cfg : Cfg) (now : Nat) (b : Snd) (hd0 : b.deadline ≠ 0) (hdue : b.deadline ≤ now) :
    (b.state = S_WAITING_CTS → (tickSndOne cfg now b).1 = none ∧ (tickSndOne cfg now b).2.2.2.2 = .rts b.session) ∧
    (b.state = S_WAITING_EOM_ACK → (tickSndOne cfg now b).1 = none ∧ (tickSndOne cfg now b).2.2.2.2 = .rts b.session) ∧
    (b.state = S_EOM_ACK_RECEIVED → (tickSndOne cfg now b).1 = none ∧ (tickSndOne cfg now b).2.2.2.2 = .rts b.session) ∧
    (b.state = S_FINISHED → (tickSndOne cfg now b).1 = none ∧ (tickSndOne cfg now b).2.2.2.2 = .rts b.session) ∧
    (b.state = S_SENDING_EOM_STATUS → (tickSndOne cfg now b).1 = none ∧ (tickSndOne cfg now b).2.2.2.2 = .bam b.session) := by
  have over : b.state = S_WAITING_EOM_ACK ∨ b.state = S_EOM_ACK_RECEIVED ∨ b.state = S_FINISHED →
      (tickSndOne cfg now b).1 = none ∧ (tickSndOne cfg now b).2.2.2.2 = .rts b.session :=
    fun h => by rw [tickSndOne_over_state cfg now b hd0 hdue h]; exact ⟨rfl, rfl⟩
  exact ⟨fun h => by rw [tickSndOne_waiting_state cfg now b hd0 hdue h]; exact ⟨rfl, rfl⟩,
    fun h => over (.inl h), fun h => over (.inr (.inl h)), fun h => over (.inr (.inr h)),
    fun h => by rw [tickSndOne_eoms_state cfg now b hd0 hdue h]; exact ⟨rfl, rfl⟩⟩

section cons22
open J1939.Dll22 J1939.Props.C07

/-- the invariant holds initially (empty tables, 8 + 4 free numbers) -/
theorem c10_22_cons_init : Cons {} := by
  -- no record to speak of, and no number of a fresh pool is in use
  have no {P : Prop} {k : Nat} {b : Snd} (h : ({} : St).snd.get? k = some b) : P := nomatch h
  have noFalse : ∀ n (j : Nat), (List.replicate n true)[j]? = some false → False :=
    fun _ _ hj => Bool.noConfusion (List.mem_replicate.mp (List.mem_of_getElem? hj)).2
  exact { rl := rfl, bl := rfl, kind := fun _ _ => no, keyB := fun _ _ => no, keyR := fun _ _ => no, keyS := fun _ _ => no,
          usedB := fun _ _ => no, usedR := fun _ _ => no, injB := fun _ _ _ _ h => no h, injR := fun _ _ _ _ h => no h,
          ownB := fun i hi => (noFalse _ i hi).elim, ownR := fun i hi => (noFalse _ i hi).elim }

/-- CONSERVATION OVER EVERY HISTORY (J1939-22): after ANY sequence of send_pgn calls (any arguments with a one-byte PS,
    accepted or refused), received frames (any identifier, any content — after the repair of D29 also from the illegal
    source 255) and background passes (any times, whatever times out), the send table and the two pools agree exactly:
    every session record holds a number that is marked used in the pool of its kind, no two records of a kind share a
    number, and EVERY used number belongs to a live record of that kind — no number is ever lost or handed out twice -/
theorem c10_22_conservation (cfg : Dll22.Cfg) (acc : Nat → Bool) (evs : List Ev22)
    (hps : ∀ e ∈ evs, ∀ now dp pf ps prio sa data tl ff, e = Ev22.send now dp pf ps prio sa data tl ff → ps < 256) :
    Cons (evs.foldl (step22 cfg acc) {}) := by
  refine List.foldlRecOn evs _ c10_22_cons_init fun s h e he => ?_
  cases e with
  | send now dp pf ps prio sa data tl ff =>
    exact sendPgn_cons cfg s now dp pf ps prio sa data tl ff (hps _ he now dp pf ps prio sa data tl ff rfl) h
  | rx now canId data => exact notify_cons cfg s now acc canId data h
  | pass now => exact tick_cons cfg s now h

/-- … in particular a session number is in use EXACTLY when a live session of that kind holds it -/
theorem c10_22_used_iff_held (s : Dll22.St) (h : Cons s) (i : Nat) :
    (s.rtsPool[i]? = some false ↔ ∃ k b, s.snd.get? k = some b ∧ KRts b.state ∧ b.session = i) ∧
    (s.bamPool[i]? = some false ↔ ∃ k b, s.snd.get? k = some b ∧ KBam b.state ∧ b.session = i) := by
  refine ⟨⟨h.ownR i, ?_⟩, ⟨h.ownB i, ?_⟩⟩
  · rintro ⟨k, b, hk, hr, rfl⟩; exact h.usedR k b hk hr
  · rintro ⟨k, b, hk, hb, rfl⟩; exact h.usedB k b hk hb

/-- … and whenever no transfer is running the FULL advertised capacity (8 destination-specific + 4 broadcast sessions)
    is available again, whatever happened before -/
theorem c10_22_idle_means_full (s : Dll22.St) (h : Cons s) (hidle : s.snd = []) :
    s.rtsPool = List.replicate 8 true ∧ s.bamPool = List.replicate 4 true := by
  have none : ∀ k, s.snd.get? k = none := by intro k; rw [hidle]; rfl
  have allTrue : ∀ (p : List Bool) (n : Nat), p.length = n → (∀ i : Nat, p[i]? ≠ some false) → p = List.replicate n true := by
    intro p n hl hf
    refine List.eq_replicate_iff.mpr ⟨hl, fun b hb => ?_⟩
    obtain ⟨i, hi⟩ := List.getElem?_of_mem hb
    cases b with
    | true => rfl
    | false => exact absurd hi (hf i)
  refine ⟨allTrue _ 8 h.rl ?_, allTrue _ 4 h.bl ?_⟩
  · intro i hi
    obtain ⟨k, b, hk, _⟩ := h.ownR i hi
    rw [none k] at hk; cases hk
  · intro i hi
    obtain ⟨k, b, hk, _⟩ := h.ownB i hi
    rw [none k] at hk; cases hk

end cons22

section frames22

theorem cm_session_lt (data : List Nat) : Tp22.cm_session data < 16 := by
  simp only [Tp22.cm_session, J1939.Bits.and_15]; omega

theorem dt_session_lt (data : List Nat) : Tp22.dt_session data < 16 := cm_session_lt data

/-- J1939-22, TRANSPORT FRAMES NEVER TOUCH A SESSION THAT IS NOT THEIRS: any FD.TP.CM or FD.TP.DT frame from `src` to
    `dest` leaves every inbound session with another (session number, source, destination) and every outbound session
    with another (session number, dest, src) exactly as it was — the up to 8 + 4 concurrent sessions of a stack and the
    sessions of different peers cannot advance, corrupt, complete or free one another -/
theorem c10_22_frames_keep_other_sessions (cfg : Cfg) (s : St) (now : Nat) (mid : MessageId) (dest : Nat) (data : List Nat)
    (i' sa' da' : Nat) (h1 : mid.source_address < 256) (h2 : dest < 256) (h0 : i' < 16) (h3 : sa' < 256) (h4 : da' < 256) :
    (¬ (i' = Tp22.cm_session data ∧ sa' = mid.source_address ∧ da' = dest) →
      (processCm cfg s now mid dest data).st.rcv.get? (Tp22.buffer_hash i' sa' da') = s.rcv.get? (Tp22.buffer_hash i' sa' da')) ∧
    (¬ (i' = Tp22.dt_session data ∧ sa' = mid.source_address ∧ da' = dest) →
      (processDt s now mid dest data).st.rcv.get? (Tp22.buffer_hash i' sa' da') = s.rcv.get? (Tp22.buffer_hash i' sa' da')) ∧
    (¬ (i' = Tp22.cm_session data ∧ sa' = dest ∧ da' = mid.source_address) →
      (processCm cfg s now mid dest data).st.snd.get? (Tp22.buffer_hash i' sa' da') = s.snd.get? (Tp22.buffer_hash i' sa' da')) := by
  refine ⟨fun hne => ?_, fun hne => ?_, fun hne => ?_⟩
  · exact (processCm_rx cfg s now mid dest data).rcv_get? _
      (fun h => hne (J1939.Props.C02.c02_session_key_injective i' sa' da' _ mid.source_address dest h0 h3 h4 (cm_session_lt data) h1 h2 h))
  · exact (processDt_rx s now mid dest data).rcv_get? _
      (fun h => hne (J1939.Props.C02.c02_session_key_injective i' sa' da' _ mid.source_address dest h0 h3 h4 (dt_session_lt data) h1 h2 h))
  · exact (processCm_rx cfg s now mid dest data).snd_get? _
      (fun h => hne (J1939.Props.C02.c02_session_key_injective i' sa' da' _ dest mid.source_address h0 h3 h4 (cm_session_lt data) h2 h1 h))

/-- J1939-22: a long `send_pgn` never touches the receive table -/
theorem c10_22_send_keeps_rcv (cfg : Cfg) (s : St) (now dp pf ps prio sa : Nat) (data : List Nat) (tl ff : Nat) (hl : 60 < data.length) :
    (sendPgn cfg s now dp pf ps prio sa data tl ff).1.st.rcv = s.rcv := by
  have h := sendPgn_sent cfg s now dp pf ps prio sa data tl ff hl
  generalize sendPgn cfg s now dp pf ps prio sa data tl ff = r at h ⊢
  cases h <;> rfl

theorem sendPgn22_get?_other (cfg : Cfg) (s : St) (now dp pf ps prio sa : Nat) (data : List Nat) (tl ff : Nat) (hl : 60 < data.length)
    (k : Nat) (hk : ∀ i dst, k ≠ Tp22.buffer_hash i sa dst) :
    (sendPgn cfg s now dp pf ps prio sa data tl ff).1.st.snd.get? k = s.snd.get? k := by
  have h := sendPgn_sent cfg s now dp pf ps prio sa data tl ff hl
  generalize sendPgn cfg s now dp pf ps prio sa data tl ff = r at h ⊢
  cases h with
  | refused => rfl
  | bam | rts => exact PyDict.get?_set_ne _ _ _ _ (hk _ _)

/-- J1939-22, A SEND FROM ONE CA NEVER DISTURBS ANOTHER CA'S SESSIONS: a long `send_pgn` from source `sa` (accepted or
    refused) leaves every outbound session of any other source address on this stack unchanged -/
theorem c10_22_send_keeps_other_sources (cfg : Cfg) (s : St) (now dp pf ps prio sa : Nat) (data : List Nat) (tl ff : Nat)
    (hl : 60 < data.length) (i' sa' da' : Nat) (h0 : i' < 16) (h1 : sa < 256) (h3 : sa' < 256) (h4 : da' < 256) (hne : sa' ≠ sa) :
    (sendPgn cfg s now dp pf ps prio sa data tl ff).1.st.snd.get? (Tp22.buffer_hash i' sa' da') = s.snd.get? (Tp22.buffer_hash i' sa' da') := by
  apply sendPgn22_get?_other cfg s now dp pf ps prio sa data tl ff hl
  intro i dst h
  -- the second digit of the key is the source address
  have := (buffer_hash_fields i' sa' da').2.1
  rw [h, (buffer_hash_fields i sa dst).2.1, Nat.mod_eq_of_lt h1, Nat.mod_eq_of_lt h3] at this
  exact hne this.symm

end frames22

end J1939.Props.C10
