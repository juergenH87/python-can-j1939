/-
  C09 — Originator obeys flow control and pacing; responder never over-grants.   (J1939-21 first, J1939-22 below)
  Single-step theorems for EVERY state/record/frame: no DT before the first CTS, at most the granted number after each
  CTS, none after a hold, BAM spacing, and every CTS grant ≤ RTS limit, ≤ own maximum, ≤ remaining.
-/
import J1939.Lemmas.Step21
import J1939.Lemmas.Pass21
import J1939.Lemmas.Send21
import J1939.Props.C02
namespace J1939.Props.C09
open J1939 J1939.Gen J1939.Dll21

/-- FIRST GRANT: an RTS on a free pair is answered by exactly one CTS for packet 1 that grants
    min(own maximum, RTS limit, total packets) — hence never more than any of the three -/
theorem c09_first_cts (cfg : Cfg) (s : St) (now : Nat) (mid : MessageId) (dest : Nat) (data : List Nat)
    (hl : 8 ≤ data.length) (hc : Tp21.cm_control data = Const.CM21.RTS)
    (hfree : s.rcv.contains (Tp21.buffer_hash mid.source_address dest) = false) :
    let g := min cfg.maxCmdt (min (Tp21.rts_max data) (Tp21.rts_packets data))
    (processCm cfg s now mid dest data).outs = [.tx (Tp21.cts dest mid.source_address g 1 (Tp21.cm_pgn data)), .wake] ∧
    g ≤ cfg.maxCmdt ∧ g ≤ Tp21.rts_max data ∧ g ≤ Tp21.rts_packets data ∧
    (processCm cfg s now mid dest data).st.rcv.get? (Tp21.buffer_hash mid.source_address dest) =
      some { pgn := Tp21.cm_pgn data, messageSize := Tp21.rts_size data, numPackages := Tp21.rts_packets data, nextPacket := g,
             maxCmdt := cfg.maxCmdt, maxRec := some g, data := [], deadline := now + Const.T21.T2,
             src := mid.source_address, dest := dest } := by
  rw [processCm_rts hl hc hfree]
  exact ⟨rfl, Nat.min_le_left _ _, Nat.le_trans (Nat.min_le_right _ _) (Nat.min_le_left _ _),
    Nat.le_trans (Nat.min_le_right _ _) (Nat.min_le_right _ _), PyDict.get?_set_self _ _ _⟩

/-- a busy pair is refused with an abort (reason BUSY) and the running session is untouched -/
theorem c09_rts_busy (cfg : Cfg) (s : St) (now : Nat) (mid : MessageId) (dest : Nat) (data : List Nat)
    (hl : 8 ≤ data.length) (hc : Tp21.cm_control data = Const.CM21.RTS)
    (hbusy : s.rcv.contains (Tp21.buffer_hash mid.source_address dest) = true) :
    (processCm cfg s now mid dest data).st = s ∧
    (processCm cfg s now mid dest data).outs = [.tx (Tp21.abort dest mid.source_address Const.Abort21.BUSY (Tp21.cm_pgn data))] := by
  have hl' : ¬ data.length < 8 := by omega
  unfold processCm
  simp [hl', hc, hbusy]

/-- LATER GRANTS (the three outcomes of a TP.DT for a known session with negotiated window `mr`):
    complete → end-of-message ack (destination specific) + delivery, record removed;
    window border reached → ONE CTS granting min(negotiated window, remaining) for the next ungranted packet, and the
      granted count advances by at most the window and never beyond the total;
    otherwise → no frame.  The negotiated window, the total and the PGN of the record never change. -/
theorem c09_dt_complete (s : St) (now : Nat) (mid : MessageId) (dest : Nat) (data : List Nat) (r : Rcv)
    (hne : data ≠ []) (hr : s.rcv.get? (Tp21.buffer_hash mid.source_address dest) = some r)
    (hc : r.messageSize ≤ r.data.length + (data.length - 1)) :
    (processDt s now mid dest data).outs =
      (if dest != Const.Addr.GLOBAL then [Out.tx (Tp21.eom_ack dest mid.source_address r.messageSize r.numPackages r.pgn)] else []) ++
      [.notify mid.priority r.pgn mid.source_address dest ((r.data ++ data.drop 1).take r.messageSize), .wake] ∧
    (processDt s now mid dest data).st.rcv = s.rcv.erase (Tp21.buffer_hash mid.source_address dest) ∧
    (processDt s now mid dest data).err = none := by
  obtain ⟨n, hn⟩ := Nat.exists_eq_add_one_of_ne_zero (mt List.length_eq_zero_iff.1 hne)
  rw [hn, Nat.add_sub_cancel] at hc
  rw [dt_complete hn hr hc]
  refine ⟨?_, rfl, rfl⟩
  by_cases hd : dest = Const.Addr.GLOBAL
  · rw [if_pos hd, if_neg fun h => bne_iff_ne.1 h hd]
  · rw [if_neg hd, if_pos (bne_iff_ne.2 hd)]

theorem c09_dt_cts (s : St) (now : Nat) (mid : MessageId) (dest : Nat) (data : List Nat) (r : Rcv) (mr : Nat)
    (hne : data ≠ []) (hr : s.rcv.get? (Tp21.buffer_hash mid.source_address dest) = some r) (hmr : r.maxRec = some mr)
    (hc : ¬ r.messageSize ≤ r.data.length + (data.length - 1))
    (hb : dest ≠ Const.Addr.GLOBAL ∧ r.nextPacket ≤ Py.idx data 0) :
    (processDt s now mid dest data).outs =
      [.tx (Tp21.cts dest mid.source_address (min mr (r.numPackages - r.nextPacket)) (r.nextPacket + 1) r.pgn), .wake] ∧
    (processDt s now mid dest data).st.rcv.get? (Tp21.buffer_hash mid.source_address dest) =
      some { r with data := r.data ++ data.drop 1, nextPacket := min (r.nextPacket + mr) r.numPackages, deadline := now + Const.T21.T2 } ∧
    min mr (r.numPackages - r.nextPacket) ≤ mr ∧ min mr (r.numPackages - r.nextPacket) ≤ r.numPackages - r.nextPacket := by
  obtain ⟨n, hn⟩ := Nat.exists_eq_add_one_of_ne_zero (mt List.length_eq_zero_iff.1 hne)
  rw [hn, Nat.add_sub_cancel] at hc
  rw [dt_window_end hn hr hb.1 hmr (Nat.not_le.1 hc) hb.2]
  exact ⟨rfl, PyDict.get?_set_self _ _ _, Nat.min_le_left _ _, Nat.min_le_right _ _⟩

theorem c09_dt_plain (s : St) (now : Nat) (mid : MessageId) (dest : Nat) (data : List Nat) (r : Rcv)
    (hne : data ≠ []) (hr : s.rcv.get? (Tp21.buffer_hash mid.source_address dest) = some r)
    (hc : ¬ r.messageSize ≤ r.data.length + (data.length - 1))
    (hb : ¬ (dest ≠ Const.Addr.GLOBAL ∧ r.nextPacket ≤ Py.idx data 0)) :
    (processDt s now mid dest data).outs = [.wake] ∧
    (processDt s now mid dest data).st.rcv.get? (Tp21.buffer_hash mid.source_address dest) =
      some { r with data := r.data ++ data.drop 1, deadline := now + Const.T21.T1 } := by
  obtain ⟨n, hn⟩ := Nat.exists_eq_add_one_of_ne_zero (mt List.length_eq_zero_iff.1 hne)
  rw [hn, Nat.add_sub_cancel] at hc
  rw [dt_mid hn hr (Nat.not_le.1 hc) (Decidable.or_iff_not_imp_left.2 fun hd => Nat.lt_of_not_le fun hle => hb ⟨hd, hle⟩)]
  exact ⟨rfl, PyDict.get?_set_self _ _ _⟩

/-- A GRANT OPENS A WINDOW of at most the granted number: a CTS for n ≥ 1 packets sets the wait-on packet to
    next + n' − 1 with n' ≤ n; for a conforming CTS (next packet = the stack's own counter, window within the message)
    exactly next + n − 1 -/
theorem c09_cts_window (cfg : Cfg) (s : St) (now : Nat) (mid : MessageId) (dest : Nat) (data : List Nat) (b : Snd)
    (hl : 8 ≤ data.length) (hc : Tp21.cm_control data = Const.CM21.CTS)
    (hb : s.snd.get? (Tp21.buffer_hash dest mid.source_address) = some b) (hn : Tp21.cts_packets data ≠ 0) :
    ∃ n' : Int, n' ≤ Tp21.cts_packets data ∧
      (processCm cfg s now mid dest data).st.snd.get? (Tp21.buffer_hash dest mid.source_address) =
        some { b with waitOn := some ((b.next : Int) + n' - 1), state := S_SENDING_IN_CTS, deadline := now } ∧
      (processCm cfg s now mid dest data).outs = [.wake] ∧
      (Tp21.cts_next data = b.next → b.next + Tp21.cts_packets data ≤ b.numPackages → n' = Tp21.cts_packets data) := by
  have hl' : ¬ data.length < 8 := by omega
  have hn' : (Tp21.cts_packets data == 0) = false := by simpa using hn
  unfold processCm
  simp only [hl', if_false, hc, hb, hn', beq_self_eq_true, if_true, Bool.false_eq_true]
  simp only [beq_iff_eq, cm21_cts_ne_rts, if_false]
  -- `n'` (found from the record written) is the handler's `n2`: the grant clamped to the total, then to what is left behind
  -- the CTS's next packet.  The two `split`s are the two clamps: each only lowers the grant, neither applies to a conforming CTS
  refine ⟨_, ?le, by rw [PyDict.get?_set_self], trivial, fun h1 h2 => ?conforming⟩
  case le => split <;> split <;> omega
  case conforming => split <;> split <;> omega

/-- A HOLD (CTS with 0 packets) opens nothing: state, packet counter and wait-on packet are unchanged, only the
    deadline moves to now + Th; no frame is emitted -/
theorem c09_hold (cfg : Cfg) (s : St) (now : Nat) (mid : MessageId) (dest : Nat) (data : List Nat) (b : Snd)
    (hl : 8 ≤ data.length) (hc : Tp21.cm_control data = Const.CM21.CTS)
    (hb : s.snd.get? (Tp21.buffer_hash dest mid.source_address) = some b) (hn : Tp21.cts_packets data = 0) :
    (processCm cfg s now mid dest data).st.snd.get? (Tp21.buffer_hash dest mid.source_address) =
        some { b with deadline := now + Const.T21.Th } ∧
    (processCm cfg s now mid dest data).outs = [.wake] := by
  have hl' : ¬ data.length < 8 := by omega
  unfold processCm
  simp only [hl', if_false, hc, hb, hn, beq_iff_eq, cm21_cts_ne_rts, if_true]
  exact ⟨by rw [PyDict.get?_set_self], by trivial⟩

/-- NO DATA WHILE WAITING: in the background pass a record that waits for a CTS emits no TP.DT — nothing before its
    deadline, only the connection abort at the deadline (and then it is removed) -/
theorem c09_no_dt_while_waiting (cfg : Cfg) (now : Nat) (b : Snd) (h : b.state = S_WAITING_CTS) :
    (tickSndOne cfg now b).2.1 = [] ∨
    ((tickSndOne cfg now b).2.1 = [.tx (Tp21.abort b.src b.dest Const.Abort21.TIMEOUT b.pgn)] ∧ (tickSndOne cfg now b).1 = none) := by
  by_cases h0 : b.deadline = 0
  · rw [tickSndOne, if_neg (by simpa using h0)]; exact .inl rfl
  by_cases h1 : now < b.deadline
  · rw [tickSndOne_early cfg now h0 h1]; exact .inl rfl
  · rw [tickSndOne_waiting cfg now h h0 (Nat.le_of_not_lt h1)]; exact .inr ⟨rfl, rfl⟩

/-- THE WINDOW IS OBEYED: after a CTS (state SENDING_IN_CTS, wait-on packet w ≥ next) a pass emits only TP.DT frames,
    for consecutive packets starting at `next`, never beyond packet w — at most w − next + 1 of them — and the record
    returns to WAITING_CTS as soon as packet w has gone out -/
theorem c09_window_obeyed (cfg : Cfg) (now : Nat) (b : Snd) (w : Int)
    (hs : b.state = S_SENDING_IN_CTS) (hw : b.waitOn = some w) (hle : (b.next : Int) ≤ w) (hnp : b.next ≤ b.numPackages)
    (hdue : b.deadline ≠ 0 ∧ b.deadline ≤ now) :
    ∃ b' k, (tickSndOne cfg now b).1 = some b' ∧ (tickSndOne cfg now b).2.2.1 = none ∧
      (tickSndOne cfg now b).2.1 = dtFrames b b.next k ∧ b'.next = b.next + k ∧ ((b.next + k : Nat) : Int) ≤ w + 1 ∧
      (b'.state = S_WAITING_CTS ∨ (b'.state = S_SENDING_IN_CTS ∧ ((b'.next : Int) ≤ w))) ∧ b'.waitOn = some w := by
  obtain ⟨hd0, hdn⟩ := hdue
  obtain ⟨n, r, e, h1, hwin⟩ := sendWindow_win cfg now (b.numPackages - b.next + 1) b [] w hw (.inl (by omega))
  have hk : b.next + (n - b.next) = n := by omega
  rw [tickSndOne_in_cts cfg now hs hd0 hdn, e]
  dsimp only
  -- whichever way the loop stopped, and whether or not the pass then sends the record back to waiting
  cases hwin with
  | wait h =>      -- the loop itself left the record WAITING: the test of the repair (state = SENDING ∧ …) fails on the state
    rw [if_neg (by simp +decide)]
    exact ⟨_, n - b.next, rfl, rfl, List.nil_append _, hk.symm, by omega, .inl rfl, hw⟩
  | paced iv hiv h hne =>   -- still SENDING: the repair applies iff nothing is left to send, `numPackages ≤ n` (the `split`)
    split
    · exact ⟨_, n - b.next, rfl, rfl, List.nil_append _, hk.symm, by omega, .inl rfl, hw⟩
    · exact ⟨_, n - b.next, rfl, rfl, List.nil_append _, hk.symm, by omega, .inr ⟨hs, by dsimp only; omega⟩, hw⟩
  | done h hw' =>  -- SENDING with `numPackages ≤ n`: the repair applies
    rw [if_pos (by simp [hs]; omega)]
    exact ⟨_, n - b.next, rfl, rfl, List.nil_append _, hk.symm, by omega, .inl rfl, hw⟩

/-- BAM PACING: a broadcast record emits nothing before its deadline; at or after it exactly ONE TP.DT, and the
    next one is not due before now + the configured interval (the wake-up it asks for is exactly that instant) -/
theorem c09_bam_spacing (cfg : Cfg) (now : Nat) (b : Snd) (h : b.state = S_SENDING_BM) (hd0 : b.deadline ≠ 0) :
    (now < b.deadline → (tickSndOne cfg now b).2.1 = [] ∧ (tickSndOne cfg now b).1 = some b ∧
        (tickSndOne cfg now b).2.2.2 = some b.deadline) ∧
    (b.deadline ≤ now → (tickSndOne cfg now b).2.1 = [.tx (Tp21.dt b.src b.dest (chunk b.data b.next))] ∧
        ((tickSndOne cfg now b).1 = none ∨
         ((tickSndOne cfg now b).1 = some { b with next := b.next + 1, deadline := now + cfg.bamInterval } ∧
          (tickSndOne cfg now b).2.2.2 = some (now + cfg.bamInterval)))) := by
  refine ⟨fun hh => ?_, fun hh => ?_⟩
  · rw [tickSndOne_early cfg now hd0 hh]
    exact ⟨rfl, rfl, rfl⟩
  · rw [tickSndOne_bm cfg now h hd0 hh]
    split
    · exact ⟨rfl, .inr ⟨rfl, rfl⟩⟩
    · exact ⟨rfl, .inl rfl⟩

/-- the first BAM data packet is not due before the interval after the announcement -/
theorem c09_bam_first (cfg : Cfg) (s : St) (now dp pf ps prio sa : Nat) (data : List Nat) (hl : 8 < data.length)
    (hacc : (sendPgn cfg s now dp pf ps prio sa data).2 = true) (hg : C10dest pf ps = Const.Addr.GLOBAL) :
    ∃ b, (sendPgn cfg s now dp pf ps prio sa data).1.st.snd.get? (Tp21.buffer_hash sa Const.Addr.GLOBAL) = some b ∧
      b.state = S_SENDING_BM ∧ b.deadline = now + cfg.bamInterval ∧ b.next = 0 := by
  -- the destination is global only for a broadcast: else it is PS, and PS = 255 makes it a broadcast
  have hb : (ps == Const.Addr.GLOBAL || PGN.is_pdu2_format (PGN.ofFields 0 pf ps)) = true := by
    unfold C10dest at hg
    by_cases hb : (ps == Const.Addr.GLOBAL || PGN.is_pdu2_format (PGN.ofFields 0 pf ps)) = true
    · exact hb
    · rw [if_neg hb] at hg; rw [hg] at hb; exact absurd rfl hb
  rw [sendPgn_bam cfg s now dp pf ps prio sa data hl hb hacc]
  exact ⟨_, PyDict.get?_set_self _ _ _, rfl, rfl, rfl⟩

end J1939.Props.C09

namespace J1939.Props.C09
open J1939 J1939.Gen J1939.Dll22

/-- J1939-22, FIRST GRANT: an RTS for a free (session, pair) is answered by exactly one CTS for segment 1 granting
    min(own maximum, RTS limit, total segments) — never more than any of the three -/
theorem c09_22_first_cts (cfg : Cfg) (s : St) (now : Nat) (mid : MessageId) (dest : Nat) (data : List Nat)
    (hl : 12 ≤ data.length) (hc : Tp22.cm_control data = Const.CM22.RTS)
    (hfree : s.rcv.contains (Tp22.buffer_hash (Tp22.cm_session data) mid.source_address dest) = false)
    (hsrc : mid.source_address ≠ Const.Addr.GLOBAL) :
    let g := min cfg.maxCmdt (min (Tp22.cm_byte7 data) (Tp22.cm_segment data))
    (processCm cfg s now mid dest data).outs =
      [.tx (Tp22.cts dest mid.source_address (Tp22.cm_session data) g 1 (Tp22.cm_pgn data)), .wake] ∧
    g ≤ cfg.maxCmdt ∧ g ≤ Tp22.cm_byte7 data ∧ g ≤ Tp22.cm_segment data := by
  rw [processCm_rts ⟨hl, hc, rfl, rfl, rfl, rfl, rfl⟩ rfl hsrc hfree]
  refine ⟨rfl, Nat.min_le_left _ _, ?_, ?_⟩
  · exact Nat.le_trans (Nat.min_le_right _ _) (Nat.min_le_left _ _)
  · exact Nat.le_trans (Nat.min_le_right _ _) (Nat.min_le_right _ _)

/-- J1939-22: a busy (session, pair) is refused with an abort (reason BUSY); the running session is untouched -/
theorem c09_22_rts_busy (cfg : Cfg) (s : St) (now : Nat) (mid : MessageId) (dest : Nat) (data : List Nat)
    (hl : 12 ≤ data.length) (hc : Tp22.cm_control data = Const.CM22.RTS)
    (hbusy : s.rcv.contains (Tp22.buffer_hash (Tp22.cm_session data) mid.source_address dest) = true)
    (hsrc : mid.source_address ≠ Const.Addr.GLOBAL) :
    (processCm cfg s now mid dest data).st = s ∧
    (processCm cfg s now mid dest data).outs =
      [.tx (Tp22.abort dest mid.source_address (Tp22.cm_session data) Const.Abort22.BUSY (Tp22.cm_pgn data))] := by
  have hl' : ¬ data.length < 12 := by omega
  have hsrc2 : ¬ mid.source_address = 255 := hsrc
  unfold processCm
  simp [hl', hsrc2, hc, hbusy]

/-- J1939-22, LATER GRANTS: an in-order segment that does not complete the message and reaches the window border is
    answered by ONE CTS granting min(negotiated window, segments after the border) for segment border+1, and the border
    advances by at most the window, never beyond the total; below the border no frame is sent -/
theorem c09_22_dt_grant (s : St) (now : Nat) (mid : MessageId) (dest : Nat) (f : List Nat) (r : Rcv) (border mr : Nat)
    (hlen : 4 < f.length) (hseg : Tp22.dt_segment f ≠ 0) (hd : dest ≠ Const.Addr.GLOBAL)
    (hr : s.rcv.get? (Tp22.buffer_hash (Tp22.dt_session f) mid.source_address dest) = some r)
    (hnext : r.nextPacket = Tp22.dt_segment f) (hb : r.ctsBorder = some border) (hm : r.maxRec = some mr)
    (hinc : (r.data ++ f.drop 4).length < r.messageSize) :
    (Tp22.dt_segment f ≥ border →
      (processDt s now mid dest f).outs =
        [.tx (Tp22.cts dest mid.source_address (Tp22.dt_session f) (min mr (r.numSegments - border)) (border + 1) r.pgn), .wake] ∧
      min mr (r.numSegments - border) ≤ mr ∧ min mr (r.numSegments - border) ≤ r.numSegments - border) ∧
    (Tp22.dt_segment f < border → (processDt s now mid dest f).outs = []) := by
  have hdt : (dest != Const.Addr.GLOBAL) = true := by simpa using hd
  rw [processDt_inorder hlen rfl rfl hseg rfl hr hnext]
  simp only [Nat.not_le.2 hinc, if_false, hdt, if_true, hb, hm]
  constructor
  · intro hge
    simp only [hge, if_true]
    exact ⟨trivial, Nat.min_le_left _ _, Nat.min_le_right _ _⟩
  · intro hlt
    have : ¬ Tp22.dt_segment f ≥ border := by omega
    simp only [this, if_false]

/-- J1939-22 (repair of D29): an FD.TP.CM frame whose source is the global address — no station may send from it — is
    ignored altogether: same state, nothing sent; in particular it can never be taken for a peer's answer to one of the
    stack's own broadcast sessions -/
theorem c09_22_global_source_ignored (cfg : Cfg) (s : St) (now : Nat) (mid : MessageId) (dest : Nat) (data : List Nat)
    (hsrc : mid.source_address = Const.Addr.GLOBAL) :
    processCm cfg s now mid dest data = { st := s } := by
  unfold processCm
  simp [hsrc]

/-- J1939-22, A CTS OPENS A WINDOW OF AT MOST THE GRANTED NUMBER: the originator will send from the requested segment
    up to a wait-on segment that is at most `granted - 1` further, and never beyond its own maximum or the end of the
    message; a CTS granting 0 (hold) opens nothing and only re-arms the timer -/
theorem c09_22_cts_window (cfg : Cfg) (s : St) (now : Nat) (mid : MessageId) (dest : Nat) (data : List Nat) (b : Snd)
    (hl : 12 ≤ data.length) (hc : Tp22.cm_control data = Const.CM22.CTS)
    (hg : s.snd.get? (Tp22.buffer_hash (Tp22.cm_session data) dest mid.source_address) = some b)
    (hsrc : mid.source_address ≠ Const.Addr.GLOBAL) :
    (Tp22.cm_byte7 data = 0 →
      (processCm cfg s now mid dest data).st.snd.get? (Tp22.buffer_hash (Tp22.cm_session data) dest mid.source_address)
        = some { b with deadline := now + Const.T22.Th }) ∧
    (Tp22.cm_byte7 data ≠ 0 → ∃ b', (processCm cfg s now mid dest data).st.snd.get? (Tp22.buffer_hash (Tp22.cm_session data) dest mid.source_address) = some b' ∧
      b'.next = (Tp22.cm_segment data : Int) - 1 ∧ b'.state = S_SENDING_RTS_CTS ∧
      ∃ w, b'.waitOn = some w ∧ w - b'.next + 1 ≤ (Tp22.cm_byte7 data : Int) ∧ w - b'.next + 1 ≤ (cfg.maxCmdt : Int) ∧
        (w - b'.next + 1 ≤ (b.numSegments : Int) - b'.next ∨ (b.numSegments : Int) - b'.next < 0)) := by
  unfold processCm
  dsimp only
  rw [if_neg (Nat.not_lt.2 hl), if_neg (by simpa using hsrc), hc, if_neg (by decide), if_pos (by decide), hg]
  dsimp only
  refine ⟨fun h0 => ?_, fun hne => ?_⟩
  · rw [if_pos (by simpa using h0)]; exact PyDict.get?_set_self _ _ _
  · rw [if_neg (by simpa using hne)]
    refine ⟨_, PyDict.get?_set_self _ _ _, rfl, rfl, _, rfl, ?_⟩
    -- the three clamps of the handler are minima
    have clamp : ∀ a b : Int, (if a > b then b else a) = min a b := fun a b => by split <;> omega
    simp only [clamp]
    omega

/-- J1939-22, BROADCAST PACING: a broadcast record emits nothing before its deadline (and asks to be woken exactly then);
    at or after it exactly ONE FD.TP.DT frame — the next segment — and the following frame (next segment or the
    end-of-message status) is not due before now + the configured interval, which is exactly the wake-up it asks for -/
theorem c09_22_bam_spacing (cfg : Cfg) (now : Nat) (b : Snd) (msg : List Nat) (j : Nat) (hs : b.state = S_SENDING_BAM)
    (hd0 : b.deadline ≠ 0) (hdata : b.data = chunks60 msg) (hnext : b.next = (j : Int)) (hj : j < Tp22.num_segments msg.length) :
    (now < b.deadline → tickSndOne cfg now b = (some b, [], none, some b.deadline, .none)) ∧
    (b.deadline ≤ now →
      (tickSndOne cfg now b).2.1 =
        [.tx (Tp22.dt Const.LUT_FD_DLC b.src b.dest b.session (j + 1) ((msg.drop (60 * j)).take 60) 0)] ∧
      (tickSndOne cfg now b).2.2.2.1 = some (now + cfg.bamInterval) ∧
      ∃ b', (tickSndOne cfg now b).1 = some b' ∧ b'.deadline = now + cfg.bamInterval ∧ b'.next = (j : Int) + 1) := by
  refine ⟨?_, ?_⟩
  · exact tickSndOne_early cfg now b hd0
  · intro hdue
    rw [J1939.Props.C02.tickSndOne_bam cfg now b msg j hs hd0 hdue hdata hnext hj]
    -- the two records the pass can leave differ in the state only
    by_cases hlast : (j : Int) + 1 < (b.numSegments : Int)
    · rw [if_pos hlast]; exact ⟨rfl, rfl, _, rfl, rfl, rfl⟩
    · rw [if_neg hlast]; exact ⟨rfl, rfl, _, rfl, rfl, rfl⟩

end J1939.Props.C09
