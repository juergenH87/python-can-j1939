/-
  C05 — Messages reach only the addressed applications; foreign traffic is ignored.
  The two data link layers + ECU subscriber dispatch + CA acceptance + listener flag filter.
-/
import J1939.Model.Dll21
import J1939.Model.Ecu
import J1939.Model.Ca
import J1939.Model.Listener
import J1939.Lemmas.ConstCa
import J1939.Props.C13
import J1939.Lemmas.Trace22
import J1939.Model.Dll22
namespace J1939.Props.C05
open J1939 J1939.Gen

/-- FOREIGN TRAFFIC IS A NO-OP (J1939-21): a PDU1 frame whose destination is neither global nor accepted by a local
    listener/CA — whatever its PGN: TP.CM (RTS, CTS, ack, abort), TP.DT, request, address claim, anything — returns the
    SAME state, transmits nothing, delivers nothing, raises nothing -/
theorem c05_foreign_noop (cfg : Dll21.Cfg) (s : Dll21.St) (now : Nat) (acc : Nat → Bool) (canId : Nat) (data : List Nat)
    (hpdu1 : PGN.is_pdu2_format (PGN.from_message_id (MessageId.ofCanId canId)) = false)
    (hd : (PGN.from_message_id (MessageId.ofCanId canId)).pdu_specific ≠ 255)
    (hacc : acc (PGN.from_message_id (MessageId.ofCanId canId)).pdu_specific = false) :
    Dll21.notify cfg s now acc canId data = { st := s, outs := [], err := none } := by
  unfold Dll21.notify
  simp [hpdu1, hd, hacc]

def feed (cfg : Dll21.Cfg) (acc : Nat → Bool) (s : Dll21.St) : List (Nat × Nat × List Nat) → Dll21.St × List Dll21.Out
  | [] => (s, [])
  | (now, cid, d) :: fs =>
    let r := Dll21.notify cfg s now acc cid d
    let q := feed cfg acc r.st fs
    (q.1, r.outs ++ q.2)

/-- BYSTANDER: any sequence of frames of sessions between other nodes (destinations the stack does not own) leaves the
    stack exactly as it was and silent -/
theorem c05_bystander (cfg : Dll21.Cfg) (acc : Nat → Bool) (s : Dll21.St) (frames : List (Nat × Nat × List Nat))
    (h : ∀ f ∈ frames, PGN.is_pdu2_format (PGN.from_message_id (MessageId.ofCanId f.2.1)) = false ∧
          (PGN.from_message_id (MessageId.ofCanId f.2.1)).pdu_specific ≠ 255 ∧
          acc (PGN.from_message_id (MessageId.ofCanId f.2.1)).pdu_specific = false) :
    feed cfg acc s frames = (s, []) := by
  induction frames generalizing s with
  | nil => rfl
  | cons f fs ih =>
    obtain ⟨now, cid, d⟩ := f
    obtain ⟨h1, h2, h3⟩ := h (now, cid, d) (List.mem_cons_self ..)
    simp only [feed, c05_foreign_noop cfg s now acc cid d h1 h2 h3]
    rw [ih s (fun g hg => h g (List.mem_cons_of_mem _ hg))]
    rfl

/-- A CA WITHOUT AN ADDRESS RECEIVES NOTHING DESTINATION-SPECIFIC -/
theorem c05_ca_needs_address (c : Ca.Ca) (h : c.state ≠ Ca.NORMAL) (d : Nat) (hd : d ≠ 255) : Ca.messageAcceptable c d = false :=
  (J1939.Props.C13.c13_no_address_is_null c h).2 d hd

/-- … and an operational one accepts exactly its own address and the global one -/
theorem c05_ca_accepts (c : Ca.Ca) (a : Nat) (h : c.state = Ca.NORMAL) (ha : c.addr = some a) (d : Nat) :
    Ca.messageAcceptable c d = (d == 255 || d == a) := by
  simp only [Ca.messageAcceptable, Ca.deviceAddress, h, ha, bne_self_eq_false, Bool.false_eq_true, if_false,
    Ca.addr_global_255, Option.some_beq_some, BEq.comm (a := a)]
  split <;> simp [*]

/-- which registrations a PDU for destination `dest` is handed to: no address → always; integer address → that address
    or global; predicate (a CA's message_acceptable) → global or predicate true -/
theorem c05_match_rule (accept : Nat → Nat → Bool) (d : Ecu.Sub) (dest : Nat) :
    Ecu.subMatches accept d dest =
      match d.addr with
      | .none => true
      | .int a => dest == 255 || dest == a
      | .pred p => dest == 255 || accept p dest := rfl

theorem notifyLoop_exact (accept : Nat → Nat → Bool) (prio pgn sa dest : Nat) (data : List Nat) (c : Ecu.Core)
    (hno : ∀ k, (c.cbOf k).ops = []) (fuel i clk : Nat) (obs : List Ecu.Obs) (hf : c.subs.length - i < fuel) :
    Ecu.notifyLoop accept prio pgn sa dest data fuel i c clk obs =
      (c, clk, obs ++ ((c.subs.drop i).filter (fun d => Ecu.subMatches accept d dest)).map
        (fun d => Ecu.Obs.deliver d.cb prio pgn sa data)) := by
  induction fuel generalizing i obs with
  | zero => omega
  | succ fuel ih =>
    rw [Ecu.notifyLoop]
    cases hg : c.subs[i]? with
    | none => simp [List.drop_eq_nil_of_le (List.getElem?_eq_none_iff.mp hg)]
    | some d =>
      obtain ⟨hi, rfl⟩ := List.getElem?_eq_some_iff.mp hg
      rw [List.drop_eq_getElem_cons hi, List.filter_cons]
      have hf' : c.subs.length - (i + 1) < fuel := by omega
      by_cases hm : Ecu.subMatches accept c.subs[i] dest = true
      · simp only [hm, if_true, hno, Ecu.Core.applyOps, List.foldl_nil, ih (i + 1) _ hf', List.map_cons,
          List.append_assoc, List.singleton_append]
      · simp only [hm, Bool.false_eq_true, if_false, ih (i + 1) _ hf']

/-- DELIVERY RULE: with callbacks that do not touch the registrations, a PDU is handed to exactly the matching
    registrations, each once, in registration order -/
theorem c05_delivery_rule (accept : Nat → Nat → Bool) (c : Ecu.Core) (hno : ∀ k, (c.cbOf k).ops = [])
    (clk prio pgn sa dest : Nat) (data : List Nat) :
    (c.notifySubscribers accept clk prio pgn sa dest data).2.2 =
      (c.subs.filter (fun d => Ecu.subMatches accept d dest)).map (fun d => Ecu.Obs.deliver d.cb prio pgn sa data) ∧
    (c.notifySubscribers accept clk prio pgn sa dest data).1 = c := by
  unfold Ecu.Core.notifySubscribers
  rw [notifyLoop_exact accept prio pgn sa dest data c hno _ 0 clk [] (by omega)]
  simp

/-- BROADCAST REACHES EVERYBODY: a PDU2 frame is handed up with destination 255, and destination 255 matches every
    registration whatever its address -/
theorem c05_broadcast_all (accept : Nat → Nat → Bool) (d : Ecu.Sub) : Ecu.subMatches accept d 255 = true := by
  unfold Ecu.subMatches; cases d.addr <;> simp

/-- the ECU-level acceptance gate: a destination is locally owned iff some registration has exactly this integer address -/
theorem c05_ecu_gate (c : Ecu.Core) (dest : Nat) : c.isAcceptable dest = c.subs.any (fun d => d.addr == Ecu.AddrSpec.int dest) := rfl

/-- LISTENER FLAGS: only extended-id data frames reach the ECU: all 16 flag combinations -/
theorem c05_listener_flags :
    ∀ stopped err remote ext, Listener.forwards stopped err remote ext = (!stopped && !err && !remote && ext) := by decide

/-- FOREIGN TRAFFIC IS A NO-OP (J1939-22): a PDU1 frame whose destination is neither global nor accepted by a local
    listener/CA — whatever its PGN: FD.TP.CM (RTS, CTS, end-of-message status/ack, BAM announcement, abort), FD.TP.DT,
    multi-PG, request, address claim, anything — returns the SAME state, transmits nothing, delivers nothing, raises
    nothing -/
theorem c05_22_foreign_noop (cfg : Dll22.Cfg) (s : Dll22.St) (now : Nat) (acc : Nat → Bool) (canId : Nat) (data : List Nat)
    (hpdu1 : PGN.is_pdu2_format (PGN.from_message_id (MessageId.ofCanId canId)) = false)
    (hd : (PGN.from_message_id (MessageId.ofCanId canId)).pdu_specific ≠ 255)
    (hacc : acc (PGN.from_message_id (MessageId.ofCanId canId)).pdu_specific = false) :
    Dll22.notify cfg s now acc canId data = { st := s, outs := [], err := none } := by
  unfold Dll22.notify
  simp [hpdu1, hd, hacc]

def feed22 (cfg : Dll22.Cfg) (acc : Nat → Bool) (s : Dll22.St) : List (Nat × Nat × List Nat) → Dll22.St × List Dll22.Out
  | [] => (s, [])
  | (now, cid, d) :: fs =>
    let r := Dll22.notify cfg s now acc cid d
    let q := feed22 cfg acc r.st fs
    (q.1, r.outs ++ q.2)

/-- J1939-22 BYSTANDER: any sequence of frames between other nodes leaves the stack exactly as it was and silent -/
theorem c05_22_bystander (cfg : Dll22.Cfg) (acc : Nat → Bool) (s : Dll22.St) (frames : List (Nat × Nat × List Nat))
    (h : ∀ f ∈ frames, PGN.is_pdu2_format (PGN.from_message_id (MessageId.ofCanId f.2.1)) = false ∧
          (PGN.from_message_id (MessageId.ofCanId f.2.1)).pdu_specific ≠ 255 ∧
          acc (PGN.from_message_id (MessageId.ofCanId f.2.1)).pdu_specific = false) :
    feed22 cfg acc s frames = (s, []) := by
  induction frames generalizing s with
  | nil => rfl
  | cons f fs ih =>
    obtain ⟨now, cid, d⟩ := f
    obtain ⟨h1, h2, h3⟩ := h (now, cid, d) (List.mem_cons_self ..)
    simp only [feed22, c05_22_foreign_noop cfg s now acc cid d h1 h2 h3]
    rw [ih s (fun g hg => h g (List.mem_cons_of_mem _ hg))]
    rfl

/-- J1939-22 (repair of D18): a PDU2 frame is a broadcast — it is handed up with destination 255 whatever its group
    extension byte is, and never touches the transport state -/
theorem c05_22_pdu2_is_broadcast (cfg : Dll22.Cfg) (s : Dll22.St) (now : Nat) (acc : Nat → Bool) (canId : Nat) (data : List Nat)
    (h : PGN.is_pdu2_format (PGN.from_message_id (MessageId.ofCanId canId)) = true) :
    Dll22.notify cfg s now acc canId data =
      { st := s, outs := [.notify (MessageId.ofCanId canId).priority (PGN.value (PGN.from_message_id (MessageId.ofCanId canId)))
                            (MessageId.ofCanId canId).source_address Const.Addr.GLOBAL data], err := none } := by
  unfold Dll22.notify
  simp [h]

/-- J1939-22, A COMPLETED DESTINATION-SPECIFIC TRANSFER IS HANDED UP WITH ITS SESSION'S DESTINATION — whatever parameter
    group it carried (a peer may move a PDU2 group in connection mode; it is then still addressed to `dest`, not to
    everybody): the delivery rule of the ECU (`c05_delivery_rule`) then gives it to exactly the listeners entitled to
    `dest` -/
theorem c05_22_tp_delivery_keeps_destination (cfg : Dll22.Cfg) (s : Dll22.St) (now : Nat) (mid : MessageId) (dest : Nat) (f : List Nat)
    (r : Dll22.Rcv) (session : Nat)
    (hlen : 12 ≤ f.length) (hc : Tp22.cm_control f = Const.CM22.EOM_STATUS) (hs : Tp22.cm_session f = session)
    (hsz : Tp22.cm_size f = r.messageSize) (hn : Tp22.cm_segment f = r.numSegments)
    (hr : s.rcv.get? (Tp22.buffer_hash session mid.source_address dest) = some r) (hd : r.data.length = r.messageSize)
    (hsrc : mid.source_address ≠ Const.Addr.GLOBAL) :
    ∀ d ∈ Dll22.deliveries (Dll22.processCm cfg s now mid dest f).outs, d.2.2.2.1 = dest ∧ d.2.1 = r.pgn := by
  intro d hdm
  rw [(Dll22.eom22_delivers cfg s now mid dest f r session hlen hc hs hsz hn hr hd hsrc).1] at hdm
  simp only [List.mem_singleton] at hdm
  subst hdm
  exact ⟨rfl, rfl⟩

end J1939.Props.C05

