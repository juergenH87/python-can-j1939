/-
  C14 — PGN requests reach exactly the addressed operational CAs; claims are answered.
  The end-to-end statement goes over the J1939-21 layer (`Lemmas/Id21`, `Bytes21` for the identifier and the three PGN bytes).
-/
import J1939.Model.Dll21
import J1939.Lemmas.ConstCa
import J1939.Lemmas.Bytes21
import J1939.Lemmas.Id21
namespace J1939.Props.C14
open J1939 J1939.Gen J1939.Ca J1939.Bits

theorem request_pgn_data (pgn : Nat) : Gen.Ca.request_pgn (Gen.Ca.request_data pgn) = pgn % 16777216 := by
  simp only [Gen.Ca.request_data, Gen.Ca.request_pgn, and_255, shr_8, shr_16, Py.idx, List.getD_cons_zero, List.getD_cons_succ]
  exact le24_digits pgn

/-- REQUEST CODEC: the three request bytes are the little-endian PGN and decode back to it — for all 2^24 values,
    hence for all 2^18 PGNs of both data pages (and the reserved bit) of the REQUESTED group -/
theorem c14_request_codec (pgn : Nat) (h : pgn < 16777216) :
    Gen.Ca.request_data pgn = Ref.pgnLE pgn ∧ Gen.Ca.request_pgn (Gen.Ca.request_data pgn) = pgn := by
  refine ⟨?_, (request_pgn_data pgn).trans (Nat.mod_eq_of_lt h)⟩
  simp only [Gen.Ca.request_data, Ref.pgnLE, and_255, shr_8, shr_16]

theorem request_id (dest a : Nat) (hd : dest < 256) (ha : a < 256) :
    MessageId.can_id (MessageId.ofFields 6 (PGN.value (PGN.ofFields 0 234 dest)) a) = 6 * 67108864 + (234 * 256 + dest) * 256 + a := by
  rw [Dll21.pdu1_id, Nat.mod_eq_of_lt hd, Nat.mod_eq_of_lt ha]

/-- THE REQUEST FRAME: an operational CA at address `a` sending send_request(0, pgn, dest) hands the data link layer
    PF 0xEA, PS = dest, priority 6, its own address and the three bytes; on J1939-21 that is ONE frame with identifier
    priority 6 | 0xEA | dest | a -/
theorem c14_request_frame (c : Ca.Ca) (a pgn dest : Nat) (h : c.state = NORMAL) (ha : c.addr = some a) (hd : dest < 256) (ha' : a < 256)
    (cfg : Dll21.Cfg) (s : Dll21.St) (now : Nat) :
    sendRequest c pgn dest = some (a, 234, dest, 6, Gen.Ca.request_data pgn) ∧
    (Dll21.sendPgn cfg s now 0 234 dest 6 a (Gen.Ca.request_data pgn)).1.outs =
      [.tx { id := 6 * 67108864 + (234 * 256 + dest) * 256 + a, ext := true, data := Gen.Ca.request_data pgn }] := by
  have h' : (c.state != NORMAL) = false := by simp [h]
  refine ⟨?_, ?_⟩
  · simp only [sendRequest, h', ha, Bool.false_eq_true, if_false, and_255, Nat.mod_eq_of_lt hd]
    rfl
  · rw [Dll21.sendPgn, if_pos (by simp [Gen.Ca.request_data])]
    dsimp only
    rw [request_id dest a hd ha']

/-- DISPATCH at one CA: for a request (sa, dest, pgn) that reached it, the request callbacks run — once, with exactly
    (sa, dest, pgn) — iff the CA is operational AND owns `dest` (or dest is global) AND pgn is not the address-claim PGN;
    for the address-claim PGN such a CA answers with its address-claimed frame from its address; every other CA does nothing -/
theorem c14_dispatch (c : Ca.Ca) (sa dest : Nat) (data : List Nat) (hl : 3 ≤ data.length) :
    let pgn := Gen.Ca.request_pgn data
    let addressed := c.state = NORMAL ∧ (c.addr = some dest ∨ dest = 255)
    (addressed ∧ pgn ≠ Const.PGN.ADDRESSCLAIM → processRequest c sa dest data = some (.callbacks sa dest pgn)) ∧
    (addressed ∧ pgn = Const.PGN.ADDRESSCLAIM → ∀ a, c.addr = some a → processRequest c sa dest data = some (.claim (claimFrame c a))) ∧
    (¬ addressed → processRequest c sa dest data = some .nothing) := by
  intro pgn addressed
  have guard : (c.state != NORMAL || (c.addr != some dest && dest != Const.Addr.GLOBAL)) = true ↔ ¬ addressed := by
    simp only [addressed, Const.Addr.GLOBAL, Bool.or_eq_true, Bool.and_eq_true, bne_iff_ne, ne_eq,
      Decidable.not_and_iff_not_or_not, not_or]
  rw [processRequest, if_neg (by omega)]
  refine ⟨fun ⟨ha, hp⟩ => ?_, fun ⟨ha, hp⟩ a hca => ?_, fun hn => ?_⟩
  · rw [if_neg (mt guard.mp (not_not_intro ha)), if_neg (by simpa using hp)]
  · rw [if_neg (mt guard.mp (not_not_intro ha)), if_pos (by simpa using hp), hca]
  · rw [if_pos (guard.mpr hn)]

/-- DISPATCH at the data link layer (J1939-21): a request frame is passed to the CAs iff its destination is global or a
    local listener/CA accepts it; it never creates transport state and never transmits by itself -/
theorem c14_dll_passes_request (cfg : Dll21.Cfg) (s : Dll21.St) (now : Nat) (acc : Nat → Bool) (canId : Nat) (data : List Nat)
    (hpdu1 : PGN.is_pdu2_format (PGN.from_message_id (MessageId.ofCanId canId)) = false)
    (hreq : Tp21.notify_pgn_value (PGN.from_message_id (MessageId.ofCanId canId)) = Const.PGN.REQUEST) :
    let dest := (PGN.from_message_id (MessageId.ofCanId canId)).pdu_specific
    Dll21.notify cfg s now acc canId data =
      { st := s, outs := if dest = 255 ∨ acc dest = true then [.request (MessageId.ofCanId canId).source_address dest data] else [] } := by
  have hne : Const.PGN.REQUEST ≠ Const.PGN.ADDRESSCLAIM := by decide
  unfold Dll21.notify
  simp only [hpdu1, Bool.false_eq_true, if_false, hreq]
  by_cases hd : (PGN.from_message_id (MessageId.ofCanId canId)).pdu_specific = 255
  · simp [hd, hne]
  · cases acc (PGN.from_message_id (MessageId.ofCanId canId)).pdu_specific with
    | false => simp [hd]
    | true => simp [hd, hne]

/-- REQUEST FROM END TO END (J1939-21): an operational CA at `a` calls send_request(0, pgn, dest) for any 24-bit PGN; the
    ONE frame it puts on the bus, received by any other stack, is handed to that stack's CAs iff dest is global or
    accepted there — with the requester's address `a`, the destination and the three bytes — and every CA that is
    operational and owns `dest` (or dest is global) runs its request callbacks once with EXACTLY (a, dest, pgn) (or, for
    the address-claim PGN, answers with its address-claimed frame); every other CA does nothing -/
theorem c14_request_end_to_end (c : Ca.Ca) (a pgn dest : Nat) (h : c.state = NORMAL) (ha : c.addr = some a) (hd : dest < 256) (ha' : a < 256)
    (hp : pgn < 16777216) (cfgO cfgR : Dll21.Cfg) (sO sR : Dll21.St) (t0 t1 : Nat) (acc : Nat → Bool) (r : Ca.Ca) :
    ∃ f, (Dll21.sendPgn cfgO sO t0 0 234 dest 6 a (Gen.Ca.request_data pgn)).1.outs = [.tx f] ∧
      Dll21.notify cfgR sR t1 acc f.id f.data =
        { st := sR, outs := if dest = 255 ∨ acc dest = true then [.request a dest (Gen.Ca.request_data pgn)] else [] } ∧
      let addressed := r.state = NORMAL ∧ (r.addr = some dest ∨ dest = 255)
      (addressed ∧ pgn ≠ Const.PGN.ADDRESSCLAIM → processRequest r a dest f.data = some (.callbacks a dest pgn)) ∧
      (addressed ∧ pgn = Const.PGN.ADDRESSCLAIM → ∀ ra, r.addr = some ra → processRequest r a dest f.data = some (.claim (claimFrame r ra))) ∧
      (¬ addressed → processRequest r a dest f.data = some .nothing) := by
  obtain ⟨_, hframe⟩ := c14_request_frame c a pgn dest h ha hd ha' cfgO sO t0
  refine ⟨_, hframe, ?_, ?_⟩
  · -- the receiving data link layer
    obtain ⟨p1, _, p3⟩ := Dll21.tp_id_parse 6 234 dest a (by decide) (by decide) hd ha'
    have hreq : Tp21.notify_pgn_value { data_page := 0, pdu_format := 234, pdu_specific := dest } = Const.PGN.REQUEST :=
      Dll21.npv_pdu1 234 dest (by decide) hd
    have := c14_dll_passes_request cfgR sR t1 acc _ (Gen.Ca.request_data pgn) (by rw [p3]; rfl) (by rw [p3]; exact hreq)
    rw [p3, p1] at this
    dsimp only
    rw [← request_id dest a hd ha', this]
  · -- the CA behind it: the three bytes decode to the requested PGN
    have := c14_dispatch r a dest (Gen.Ca.request_data pgn) (by simp [Gen.Ca.request_data])
    rw [(c14_request_codec pgn hp).2] at this
    exact this

end J1939.Props.C14
