/-
  C02 — J1939-22 (FD) transport delivers every accepted message intact, exactly once; capacity refusal.
  In this order: capacity (refusal, one number per accepted message, no frame touches a pool); segmentation (`chunks60`)
  and the stack's own FD.TP.DT frames as `SegFrame`s; reception of a whole message (`c02_reception_exact`); broadcast
  from end to end (`bamRun`, `Due`); then connection mode: the exact window of a pass (`sendWindow_*`, `tickSndOne_*`),
  what the segments of a window leave at the responder (`RInv`, `Stored`, `feed_*`), the stack's own FD.TP.CM frames at
  their handlers (`*_accepted`), dispatch through `notify` (`fd_dispatch`, `rxAll`), rounds (`round`, `OInv`,
  `c02_rtscts_round`), runs (`run`, `Sched`, `run_delivers`), `c02_rtscts_end_to_end`; last the session key.  What
  Lemmas/Rts21.lean and Lemmas/Bam21.lean hold for J1939-21 is here for J1939-22 (table in DESIGN.md 11.7).
-/
import J1939.Model.Dll22
import J1939.Props.C03
import J1939.Lemmas.Send21
import J1939.Lemmas.Id21
import J1939.Lemmas.Trace22
import J1939.Lemmas.Bits
import J1939.Lemmas.PyDict
import J1939.Lemmas.Rx22
import J1939.Lemmas.Send22
import J1939.Lemmas.Arith
namespace J1939.Props.C02
open J1939 J1939.Gen J1939.Dll22

/-- REFUSAL IS PURE: a message of more than 60 bytes for which no session number of the needed kind is free is refused:
    send_pgn returns False, emits nothing, raises nothing and leaves the state EQUAL -/
theorem c02_refusal_pure (cfg : Cfg) (s : St) (now dp pf ps prio sa : Nat) (data : List Nat) (tl ff : Nat) (hl : 60 < data.length)
    (hfull : (if ps == Const.Addr.GLOBAL || PGN.is_pdu2_format (PGN.ofFields 0 pf ps) then poolGet s.bamPool else poolGet s.rtsPool) = none) :
    sendPgn cfg s now dp pf ps prio sa data tl ff = ({ st := s, outs := [], err := none }, false) := by
  have h := sendPgn_sent cfg s now dp pf ps prio sa data tl ff hl
  generalize sendPgn cfg s now dp pf ps prio sa data tl ff = r at h ⊢
  cases h with
  | refused => rfl
  | bam i pool hb hg => rw [hb, if_pos rfl, hg] at hfull; cases hfull
  | rts i pool hb hg => rw [hb, if_neg Bool.false_ne_true, hg] at hfull; cases hfull

/-- a pool refuses iff every number is in use -/
theorem poolGet_none_iff (p : List Bool) : poolGet p = none ↔ ∀ b ∈ p, b = false := by
  induction p with
  | nil => simp [poolGet]
  | cons b p ih =>
    cases b with
    | true => simp [poolGet]
    | false => simp [poolGet, ih]

/-- an accepted long message takes exactly one number of its kind -/
theorem c02_accept_takes_one (cfg : Cfg) (s : St) (now dp pf ps prio sa : Nat) (data : List Nat) (tl ff : Nat) (hl : 60 < data.length)
    (hacc : (sendPgn cfg s now dp pf ps prio sa data tl ff).2 = true) :
    let s' := (sendPgn cfg s now dp pf ps prio sa data tl ff).1.st
    ((ps == Const.Addr.GLOBAL || PGN.is_pdu2_format (PGN.ofFields 0 pf ps)) = true →
        ∃ i, s.bamPool[i]? = some true ∧ s'.bamPool = s.bamPool.set i false ∧ s'.rtsPool = s.rtsPool) ∧
    ((ps == Const.Addr.GLOBAL || PGN.is_pdu2_format (PGN.ofFields 0 pf ps)) = false →
        ∃ i, s.rtsPool[i]? = some true ∧ s'.rtsPool = s.rtsPool.set i false ∧ s'.bamPool = s.bamPool) := by
  have h := sendPgn_sent cfg s now dp pf ps prio sa data tl ff hl
  generalize sendPgn cfg s now dp pf ps prio sa data tl ff = r at h hacc ⊢
  cases h with
  | refused => cases hacc
  | bam i pool hb hg =>
    exact ⟨fun _ => ⟨i, (poolGet_some _ _ _ hg).1, (poolGet_some _ _ _ hg).2.1, rfl⟩, fun h => (by rw [hb] at h; cases h)⟩
  | rts i pool hb hg =>
    exact ⟨fun h => (by rw [hb] at h; cases h), fun _ => ⟨i, (poolGet_some _ _ _ hg).1, (poolGet_some _ _ _ hg).2.1, rfl⟩⟩

/-- INBOUND NEVER TOUCHES THE POOLS: no received frame — whatever it is — changes either session pool -/
theorem c02_notify_keeps_pools (cfg : Cfg) (s : St) (now : Nat) (acc : Nat → Bool) (canId : Nat) (data : List Nat) :
    (notify cfg s now acc canId data).st.rtsPool = s.rtsPool ∧ (notify cfg s now acc canId data).st.bamPool = s.bamPool := by
  obtain ⟨_, h⟩ := notify_rx cfg s now acc canId data
  exact h.pools

/-- the advertised capacity is the reflected pool sizes: 8 destination-specific and 4 broadcast sessions -/
theorem c02_capacity : Const.Pool.rts_cts = 8 ∧ Const.Pool.bam = 4 ∧ (St.rtsPool {}).length = 8 ∧ (St.bamPool {}).length = 4 := by decide

/-- SEGMENTATION: the chunks the originator keeps are the consecutive 60-byte pieces of the message; concatenated
    they are the message (for every length; a length that is a multiple of 60 has an empty last chunk that is never sent) -/
theorem c02_chunks_get (data : List Nat) (k : Nat) (hk : k < Tp22.num_segments data.length) :
    (chunks60 data)[k]? = some ((data.drop (60 * k)).take 60) := by
  unfold chunks60
  have hTP : Const.DL22.TP = 60 := rfl
  simp only [hTP]
  by_cases hfull : k < data.length / 60
  · rw [List.getElem?_append_left (by simpa using hfull)]
    simp [hfull, Nat.mul_comm]
  · have hke : k = data.length / 60 := by
      rw [num_segments_arith] at hk
      omega
    rw [List.getElem?_append_right (by simp; omega)]
    simp only [List.length_map, List.length_range, hke, Nat.sub_self, List.getElem?_cons_zero, Option.some.injEq]
    rw [Nat.mul_comm]
    exact (List.take_of_length_le (by simp; omega)).symm

theorem c02_chunks_concat (data : List Nat) : (chunks60 data).flatten = data := by
  unfold chunks60
  have hTP : Const.DL22.TP = 60 := rfl
  simp only [hTP, List.flatten_append, List.flatten_cons, List.flatten_nil, List.append_nil]
  generalize data.length / 60 = n
  induction n with
  | zero => simp
  | succ n ih =>
    rw [List.range_succ, List.map_append, List.flatten_append, List.append_assoc, Nat.add_mul, Nat.one_mul, ← List.drop_drop]
    simp only [List.map_cons, List.map_nil, List.flatten_cons, List.flatten_nil, List.append_nil, List.take_append_drop]
    exact ih

theorem pyIndex_chunk (msg : List Nat) (j : Nat) (hj : j < Tp22.num_segments msg.length) :
    pyIndex (chunks60 msg) (j : Int) = some ((msg.drop (60 * j)).take 60) := by
  unfold pyIndex
  rw [if_pos (Int.natCast_nonneg j), Int.toNat_natCast]
  exact c02_chunks_get msg j hj

/-- THE FRAMES THIS STACK BUILDS ARE SEGMENT FRAMES: the receive path extracts from the k-th FD.TP.DT frame of a message
    exactly the session, the segment number k+1 and the k-th chunk (plus padding on the last one only) -/
theorem c02_built_frame_is_segframe (data : List Nat) (src dest session k : Nat) (hs : session < 16)
    (hk : k < Tp22.num_segments data.length) (hk24 : k + 1 < 2 ^ 24) :
    SegFrame data session k (Tp22.dt Const.LUT_FD_DLC src dest session (k + 1) ((data.drop (60 * k)).take 60) 0).data := by
  have hne : 0 < ((data.drop (60 * k)).take 60).length := by
    simp only [List.length_take, List.length_drop]
    rw [num_segments_arith] at hk
    omega
  generalize hc : (data.drop (60 * k)).take 60 = chunk at hne ⊢
  have hcl : chunk.length ≤ 60 := by rw [← hc, List.length_take]; omega
  -- the reference layout of the frame (C03): header, chunk, padding up to the smallest legal length
  obtain ⟨⟨n, hd⟩, _, _, hmin, _⟩ := J1939.Props.C03.c03_22_dt_layout src dest session (k + 1) 0 chunk hcl
  obtain ⟨hs', hg'⟩ := J1939.Props.C03.c03_22_decode_dt 0 session (k + 1) (chunk ++ List.replicate n 255) hs (by omega)
    (by simpa using hk24)
  have hlen := congrArg List.length hd
  simp only [List.length_append, List.length_replicate, Ref.fdDtHeader, Ref.le24, List.length_cons, List.length_nil] at hlen
  rw [hd, List.append_assoc]
  refine { len := by rw [← List.append_assoc, ← hd]; omega, sess := hs', seg := hg',
           pay := ⟨List.replicate n 255, by rw [hc]; rfl, ?onlyLast⟩ }
  -- padding on the last segment only: a chunk that is not the last has 60 bytes
  by_cases h60 : chunk.length = 60
  · -- 64 bytes is a legal length, so a full chunk is not padded
    have := hmin 64 (by decide) (by omega)
    have hn : n = 0 := by omega
    right; rw [hn]; rfl
  · left
    rw [← hc, List.length_take, List.length_drop] at h60 hne
    omega

/-- the data bytes of the FD.TP.DT frames of segments a … a+n-1 -/
def dtDatas (src dest session : Nat) (msg : List Nat) (a n : Nat) : List (List Nat) :=
  (List.range' a n).map (fun k => (Tp22.dt Const.LUT_FD_DLC src dest session (k + 1) ((msg.drop (60 * k)).take 60) 0).data)

theorem dtDatas_segframes (msg : List Nat) (src dest session : Nat) (hs : session < 16) (h24 : Tp22.num_segments msg.length < 16777216)
    (times : List Nat) (j k : Nat) (hk : j + k ≤ Tp22.num_segments msg.length) (i : Nat)
    (h : i < (times.zip (dtDatas src dest session msg j k)).length) :
    SegFrame msg session (j + i) ((times.zip (dtDatas src dest session msg j k))[i]).2 := by
  simp only [List.length_zip, dtDatas, List.length_map, List.length_range'] at h
  simp only [List.getElem_zip, dtDatas, List.getElem_map, List.getElem_range', Nat.one_mul]
  exact c02_built_frame_is_segframe msg src dest session (j + i) hs (by omega) (by simp only [Nat.reducePow]; omega)

/-- C02, RECEPTION IS EXACT (FD.TP, broadcast and connection mode): a responder record opened for a message of
    `data.length` bytes, fed the segment frames of `data` in order at arbitrary times (the frames of this stack or of any
    conforming originator — its source address is not the global address, repair of D29) and then the end-of-message status, hands `data` up EXACTLY ONCE — byte-identical, with the
    announced PGN — removes the record and never touches the send table -/
theorem c02_reception_exact (cfg : Cfg) (data : List Nat) (hpos : 0 < data.length) (mid : MessageId) (dest session : Nat)
    (frames : List (Nat × List Nat)) (hfl : frames.length = Tp22.num_segments data.length)
    (hframes : ∀ i (h : i < frames.length), SegFrame data session i (frames[i]).2)
    (s : St) (r : Rcv) (hr : s.rcv.get? (Tp22.buffer_hash session mid.source_address dest) = some r)
    (hsize : r.messageSize = data.length) (hnext : r.nextPacket = 1) (hdata : r.data = [])
    (hmr : dest ≠ Const.Addr.GLOBAL → (∃ b, r.ctsBorder = some b) ∧ ∃ m, r.maxRec = some m)
    (now : Nat) (eom : List Nat) (hel : 12 ≤ eom.length) (hec : Tp22.cm_control eom = Const.CM22.EOM_STATUS)
    (hes : Tp22.cm_session eom = session) (hesz : Tp22.cm_size eom = data.length) (hen : Tp22.cm_segment eom = r.numSegments)
    (hsrc : mid.source_address ≠ Const.Addr.GLOBAL) :
    let s1 := (feedDt s mid dest frames).1
    deliveries ((feedDt s mid dest frames).2 ++ (processCm cfg s1 now mid dest eom).outs)
      = [(mid.priority, r.pgn, mid.source_address, dest, data)] ∧
    (processCm cfg s1 now mid dest eom).err = none ∧
    (processCm cfg s1 now mid dest eom).st.rcv.get? (Tp22.buffer_hash session mid.source_address dest) = none ∧
    (processCm cfg s1 now mid dest eom).st.snd = s.snd := by
  intro s1
  have hn := num_segments_pos data.length hpos
  -- the segments leave a record `r'` that holds exactly `data` and have delivered nothing …
  obtain ⟨quiet, hsnd, r', hr', hdata', hsize', hsegs', hpgn'⟩ := feed22_accumulates data mid dest session frames 0 s r
    (List.ne_nil_of_length_pos (hfl ▸ hn)) (by rw [hfl, Nat.zero_add]) (by intro i hi; simpa using hframes i hi) hr hsize hnext
    (by simpa using hdata) hmr
  -- … so the end-of-message status, which announces that size and segment count, hands `r'.data` up and removes the record
  obtain ⟨hdel, herr, hgone, hsnd'⟩ := eom22_delivers cfg s1 now mid dest eom r' session hel hec hes (by rw [hesz, hsize'])
    (by rw [hen, hsegs']) hr' (by rw [hdata', hsize']) hsrc
  refine ⟨?_, herr, hgone, by rw [hsnd', hsnd]⟩
  rw [deliveries_append, quiet, hdel, hpgn', hdata']; rfl

/-- successive background passes over ONE broadcast record; frames and the record left -/
def bamRun (cfg : Cfg) : List Nat → Snd → List Out × Option Snd × Release
  | [], b => ([], some b, .none)
  | t :: ts, b =>
    let r := tickSndOne cfg t b
    match r.1 with
    | none => (r.2.1, none, r.2.2.2.2)
    | some b' => let q := bamRun cfg ts b'; (r.2.1 ++ q.1, q.2)

/-- every pass of the list finds the record due -/
def Due (cfg : Cfg) : Nat → List Nat → Prop
  | _, [] => True
  | d, t :: ts => d ≠ 0 ∧ d ≤ t ∧ Due cfg (t + cfg.bamInterval) ts

theorem tickSndOne_bam (cfg : Cfg) (t : Nat) (b : Snd) (msg : List Nat) (j : Nat) (hs : b.state = S_SENDING_BAM)
    (hd0 : b.deadline ≠ 0) (hdt : b.deadline ≤ t) (hdata : b.data = chunks60 msg) (hnext : b.next = (j : Int))
    (hj : j < Tp22.num_segments msg.length) :
    tickSndOne cfg t b =
      (some (if (j : Int) + 1 < (b.numSegments : Int) then { b with next := (j : Int) + 1, deadline := t + cfg.bamInterval }
             else { b with next := (j : Int) + 1, state := S_SENDING_EOM_STATUS, deadline := t + cfg.bamInterval }),
       [.tx (Tp22.dt Const.LUT_FD_DLC b.src b.dest b.session (j + 1) ((msg.drop (60 * j)).take 60) 0)], none,
       some (t + cfg.bamInterval), .none) := by
  have htn : ((j : Int) + 1).toNat = j + 1 := by omega
  rw [tickSndOne_bam_state cfg t b hd0 hdt hs, hdata, hnext, pyIndex_chunk msg j hj, htn]

/-- ORIGINATOR, broadcast (FD): m + 1 due passes over a record with m segments left put exactly the FD.TP.DT frames of
    those segments on the bus — one per pass, in order, the 60-byte chunks of the message — then the end-of-message
    status; the last pass deletes the record and returns its number to the broadcast pool -/
theorem c02_bam_originator_frames (cfg : Cfg) (msg : List Nat) (m : Nat) : ∀ (times : List Nat) (b : Snd) (j : Nat),
    times.length = m + 1 → 0 < m → b.state = S_SENDING_BAM → b.data = chunks60 msg → b.next = (j : Int) →
    b.numSegments = Tp22.num_segments msg.length → j + m = Tp22.num_segments msg.length → Due cfg b.deadline times →
    bamRun cfg times b =
      ((List.range' j m).map (fun k => Out.tx (Tp22.dt Const.LUT_FD_DLC b.src b.dest b.session (k + 1) ((msg.drop (60 * k)).take 60) 0)) ++
        [.tx (Tp22.eom_status b.src b.dest b.session b.messageSize b.numSegments b.pgn 0 0)], none, .bam b.session) := by
  induction m with
  | zero => intro times b j _ h; omega
  | succ m ih =>
    intro times b j ht _ hs hdata hnext hn hjm hdue
    obtain ⟨t, times, rfl⟩ := List.exists_cons_of_length_eq_add_one ht
    simp only [List.length_cons, Nat.add_right_cancel_iff] at ht
    obtain ⟨hd0, hdt, hrest⟩ := hdue
    have h1 := tickSndOne_bam cfg t b msg j hs hd0 hdt hdata hnext (by omega)
    by_cases hlast : m = 0
    · subst hlast
      rw [if_neg (by rw [hn]; omega)] at h1
      obtain ⟨t', rfl⟩ := List.length_eq_one_iff.1 ht
      obtain ⟨hd0', hdt', _⟩ := hrest
      have h2 := tickSndOne_eoms_state cfg t' { b with next := (j : Int) + 1, state := S_SENDING_EOM_STATUS, deadline := t + cfg.bamInterval }
        hd0' hdt' rfl
      simp only [bamRun, h1, h2, List.range'_one, List.map_cons, List.map_nil, List.singleton_append, Nat.zero_add]
    · rw [if_pos (by rw [hn]; omega)] at h1
      have := ih times { b with next := (j : Int) + 1, deadline := t + cfg.bamInterval } (j + 1) ht (by omega) hs hdata
        (by simp only; omega) hn (by omega) hrest
      dsimp only at this
      simp only [bamRun, h1, this, List.range'_succ, List.map_cons, List.cons_append, List.nil_append]

/-- the named builders `Tp22.rts`, `Tp22.cts`, … are `Tp22.cm` by unfolding -/
theorem cm_frame (sa da ctl sess size seg b7 b8 pgn prio : Nat) (hc : ctl < 16) (hs : sess < 16) (hz : size < 16777216)
    (hg : seg < 16777216) (h7 : b7 < 256) (hp : pgn < 16777216) :
    CmFrame ctl sess size seg b7 pgn (Tp22.cm sa da ctl sess size seg b7 b8 pgn prio).data := by
  rw [(J1939.Props.C03.c03_22_cm_data sa da ctl sess size seg b7 b8 pgn prio).1]
  obtain ⟨d1, d2, d3, d4, d5, d6, d7⟩ := J1939.Props.C03.c03_22_decode_cm ctl sess size seg b7 b8 pgn hc hs hz hg h7 hp
  exact ⟨Nat.le_of_eq d7.symm, d1, d2, d3, d4, d5, d6⟩

theorem eoms_frame (sa da sess size n pgn : Nat) (hs : sess < 16) (hp : pgn < 16777216) (hz : size < 16777216) (hn : n < 16777216) :
    CmFrame Const.CM22.EOM_STATUS sess size n 0 pgn (Tp22.eom_status sa da sess size n pgn 0 0).data :=
  cm_frame sa da 2 sess size n 0 0 pgn 7 (by omega) hs hz hn (by omega) hp

theorem bam_frame (prio sa sess pgn size n : Nat) (hs : sess < 16) (hp : pgn < 16777216) (hz : size < 16777216) (hn : n < 16777216) :
    CmFrame Const.CM22.BAM sess size n 255 pgn (Tp22.bam prio sa sess pgn size n).data :=
  cm_frame sa 255 4 sess size n 255 0 pgn prio (by omega) hs hz hn (by omega) hp

/-- the frames among the outputs -/
def txFrames (o : List Out) : List Frame :=
  o.filterMap (fun x => match x with | .tx f => some f | _ => none)

theorem txFrames_map {α : Type} (l : List α) (g : α → Frame) : txFrames (l.map (fun k => Out.tx (g k))) = l.map g := by
  induction l with
  | nil => rfl
  | cons a l ih => exact congrArg (g a :: ·) ih

theorem txFrames_append (a b : List Out) : txFrames (a ++ b) = txFrames a ++ txFrames b :=
  List.filterMap_append

theorem txFrames_tx_wake (f : Frame) : txFrames [.tx f, .wake] = [f] := rfl

/-- FD BROADCAST FROM END TO END (J1939-22): an accepted broadcast of more than 60 bytes takes a session number `i` from the
    broadcast pool; served by n + 1 due passes (n = ⌈len/60⌉) it puts exactly the announcement, the n FD.TP.DT frames
    in order and the end-of-message status on the bus, the record is deleted and number `i` returned to the pool.  ANY
    node without a stale record for (i, source) that handles these frames — at arbitrary times, under its own
    configuration — delivers the message EXACTLY ONCE: announced PGN, the originator's address, destination 255, the
    byte-identical payload; and keeps no receive record -/
theorem c02_bam_end_to_end (cfgO cfgR : Cfg) (sO sR : St) (midB mid : MessageId) (t0 dp pf ps prio tl ff : Nat) (msg : List Nat)
    (hl : 60 < msg.length) (hmax : msg.length < 16777216)
    (hsB : midB.source_address = mid.source_address) (hne : mid.source_address ≠ Const.Addr.GLOBAL)
    (hb : (ps == Const.Addr.GLOBAL || PGN.is_pdu2_format (PGN.ofFields 0 pf ps)) = true)
    (hacc : (sendPgn cfgO sO t0 dp pf ps prio mid.source_address msg tl ff).2 = true)
    (hwf : sO.bamPool.length = 4)
    (passes : List Nat) (hpl : passes.length = Tp22.num_segments msg.length + 1) (hdue : Due cfgO (t0 + cfgO.bamInterval) passes)
    (hfree : ∀ i, sR.rcv.contains (Tp22.buffer_hash i mid.source_address Const.Addr.GLOBAL) = false)
    (tB tE : Nat) (rxTimes : List Nat) (hrl : rxTimes.length = Tp22.num_segments msg.length) :
    ∃ i, i < 4 ∧
      let r0 := (sendPgn cfgO sO t0 dp pf ps prio mid.source_address msg tl ff).1
      let b := bamRec cfgO t0 dp pf ps prio mid.source_address i msg
      let run := bamRun cfgO passes b
      let bamF := Tp22.bam prio mid.source_address i (bamPgn dp pf ps) msg.length (Tp22.num_segments msg.length)
      let dtFs := (List.range' 0 (Tp22.num_segments msg.length)).map
        (fun k => Tp22.dt Const.LUT_FD_DLC mid.source_address Const.Addr.GLOBAL i (k + 1) ((msg.drop (60 * k)).take 60) 0)
      let eomF := Tp22.eom_status mid.source_address Const.Addr.GLOBAL i msg.length (Tp22.num_segments msg.length) (bamPgn dp pf ps) 0 0
      r0.st.snd.get? (Tp22.buffer_hash i mid.source_address Const.Addr.GLOBAL) = some b ∧
      txFrames r0.outs ++ txFrames run.1 = bamF :: (dtFs ++ [eomF]) ∧ run.2.1 = none ∧ run.2.2 = .bam i ∧
      let a1 := processCm cfgR sR tB midB Const.Addr.GLOBAL bamF.data
      let a2 := feedDt a1.st mid Const.Addr.GLOBAL (rxTimes.zip (dtFs.map (·.data)))
      let a3 := processCm cfgR a2.1 tE mid Const.Addr.GLOBAL eomF.data
      deliveries (a1.outs ++ a2.2 ++ a3.outs) = [(mid.priority, bamPgn dp pf ps, mid.source_address, Const.Addr.GLOBAL, msg)] ∧
      a3.err = none ∧ a3.st.rcv.get? (Tp22.buffer_hash i mid.source_address Const.Addr.GLOBAL) = none := by
  have hn := num_segments_pos msg.length (Nat.lt_trans (by decide) hl)
  have hs := sendPgn_sent cfgO sO t0 dp pf ps prio mid.source_address msg tl ff hl
  generalize sendPgn cfgO sO t0 dp pf ps prio mid.source_address msg tl ff = r at hs hacc ⊢
  cases hs with
  | refused => cases hacc
  | rts _ _ hb' => rw [hb] at hb'; cases hb'
  | bam i pool _ hg =>
    have hi : i < 4 := hwf ▸ poolGet_lt _ _ _ hg
    have hrun := c02_bam_originator_frames cfgO msg _ passes (bamRec cfgO t0 dp pf ps prio mid.source_address i msg) 0 hpl hn
      rfl rfl rfl rfl (Nat.zero_add _) hdue
    refine ⟨i, hi, PyDict.get?_set_self _ _ _, ?_, congrArg (·.2.1) hrun, congrArg (·.2.2) hrun, ?_⟩
    · rw [hrun, txFrames_append, txFrames_map]
      rfl
    -- the responder: the announcement opens a record, the segment frames fill it, the end-of-message status delivers
    have hi16 : i < 16 := Nat.lt_trans hi (by decide)
    have hp : bamPgn dp pf ps < 16777216 := Dll21.bamPgn_lt dp pf ps  -- `bamPgn` is the same term as `Dll21.bamPgn`
    have hn24 := Nat.lt_of_le_of_lt (num_segments_le msg.length) hmax
    have hE := eoms_frame mid.source_address Const.Addr.GLOBAL i msg.length _ (bamPgn dp pf ps) hi16 hp hmax hn24
    rw [processCm_bam (bam_frame prio mid.source_address i (bamPgn dp pf ps) msg.length _ hi16 hp hmax hn24) hsB hne (hfree i)]
    generalize hfr : rxTimes.zip _ = frames
    have hframes : ∀ k (h : k < frames.length), SegFrame msg i k (frames[k]).2 := by
      subst hfr
      rw [List.map_map]
      intro k hk
      have := dtDatas_segframes msg _ _ i hi16 hn24 rxTimes 0 _ (Nat.le_of_eq (Nat.zero_add _)) k hk
      rwa [Nat.zero_add] at this
    intro a1
    obtain ⟨hdel, herr, hgone, _⟩ := c02_reception_exact cfgR msg (Nat.lt_trans (by decide) hl) mid Const.Addr.GLOBAL i frames
      (by rw [← hfr, List.length_zip, List.length_map, List.length_map, List.length_range']; omega) hframes a1.st
      (hr := PyDict.get?_set_self _ _ _) (hsize := rfl) (hnext := rfl) (hdata := rfl) (hmr := fun h => absurd rfl h) (now := tE)
      (hel := hE.len) (hec := hE.control) (hes := hE.session) (hesz := hE.size) (hen := hE.segment) (hsrc := hne)
    refine ⟨?_, herr, hgone⟩
    rw [List.append_assoc, deliveries_append, hdel]
    rfl

/-- the FD.TP.DT frames of segments a, a+1, …, a+n-1 (0-based) of `msg` in a session -/
def dtFrames (src dest session : Nat) (msg : List Nat) (a n : Nat) : List Out :=
  (List.range' a n).map (fun k => Out.tx (Tp22.dt Const.LUT_FD_DLC src dest session (k + 1) ((msg.drop (60 * k)).take 60) 0))

theorem sendWindow_step (cfg : Cfg) (now : Nat) {msg : List Nat} (fuel : Nat) {b : Snd} (o : List Out) {j wn : Nat}
    (hdata : b.data = chunks60 msg) (hn : b.numSegments = Tp22.num_segments msg.length) (hnext : b.next = (j : Int))
    (hw : b.waitOn = some (wn : Int)) (hj : j < Tp22.num_segments msg.length) :
    sendWindow cfg now (fuel + 1) b o =
      (if j + 1 = Tp22.num_segments msg.length then
        ({ b with next := ((j + 1 : Nat) : Int), deadline := now + Const.T22.T5, state := S_WAITING_EOM_ACK },
         o ++ dtFrames b.src b.dest b.session msg j 1 ++
           [.tx (Tp22.eom_status b.src b.dest b.session b.messageSize b.numSegments b.pgn 0 0)], none)
       else if j = wn then
        ({ b with next := ((j + 1 : Nat) : Int), state := S_WAITING_CTS, deadline := now + Const.T22.T3 },
         o ++ dtFrames b.src b.dest b.session msg j 1, none)
       else match cfg.cmdtInterval with
        | some iv => ({ b with next := ((j + 1 : Nat) : Int), deadline := now + iv }, o ++ dtFrames b.src b.dest b.session msg j 1, none)
        | none => sendWindow cfg now fuel { b with next := ((j + 1 : Nat) : Int) } (o ++ dtFrames b.src b.dest b.session msg j 1)) := by
  have hc : (j : Int) + 1 = ((j + 1 : Nat) : Int) := rfl
  rw [sendWindow]
  simp only [hnext, hn, hdata, hw, Int.ofNat_lt, hj, if_true, pyIndex_chunk msg j hj, hc, Int.toNat_natCast, beq_iff_eq,
    Int.natCast_inj, dtFrames, List.range'_one, List.map_cons, List.map_nil]
  rfl

/-- the whole window in one pass (no minimum interval): segments j … wn go out; after the LAST segment of the message the
    end-of-message status follows and the record waits for the acknowledgement (T5), otherwise it waits for the CTS (T3) -/
theorem sendWindow_all (cfg : Cfg) (now : Nat) (hiv : cfg.cmdtInterval = none) (msg : List Nat) (fuel : Nat) :
    ∀ (b : Snd) (o : List Out) (j wn : Nat), b.data = chunks60 msg → b.numSegments = Tp22.num_segments msg.length →
    b.next = (j : Int) → b.waitOn = some (wn : Int) → j ≤ wn → wn < Tp22.num_segments msg.length → wn - j < fuel →
    sendWindow cfg now fuel b o =
      (if wn + 1 = Tp22.num_segments msg.length then
        ({ b with next := ((wn + 1 : Nat) : Int), deadline := now + Const.T22.T5, state := S_WAITING_EOM_ACK },
         o ++ dtFrames b.src b.dest b.session msg j (wn + 1 - j) ++
           [.tx (Tp22.eom_status b.src b.dest b.session b.messageSize b.numSegments b.pgn 0 0)], none)
       else
        ({ b with next := ((wn + 1 : Nat) : Int), state := S_WAITING_CTS, deadline := now + Const.T22.T3 },
         o ++ dtFrames b.src b.dest b.session msg j (wn + 1 - j), none)) := by
  induction fuel with
  | zero => intro b o j wn _ _ _ _ _ _ h; omega
  | succ fuel ih =>
    intro b o j wn hdata hn hnext hw hle hwn hfuel
    rw [sendWindow_step cfg now fuel o hdata hn hnext hw (by omega)]
    by_cases hjw : j = wn
    · subst hjw
      rw [if_pos rfl, Nat.add_sub_cancel_left]
    · have hlt : j < wn := Nat.lt_of_le_of_ne hle hjw
      rw [if_neg (Nat.ne_of_lt (Nat.lt_of_le_of_lt hlt hwn)), if_neg hjw]
      simp only [hiv]
      rw [ih { b with next := ((j + 1 : Nat) : Int) } _ (j + 1) wn hdata hn rfl hw hlt hwn (by omega)]
      have hk : wn + 1 - j = (wn + 1 - (j + 1)) + 1 := by rw [Nat.add_sub_add_right]; exact Nat.succ_sub hle
      rw [hk]
      simp only [dtFrames, List.range'_succ, List.range'_zero, List.map_cons, List.map_nil, List.append_assoc, List.cons_append,
        List.nil_append]

/-- one segment per pass (a minimum interval is configured): segment j goes out; after the LAST segment of the message the
    end-of-message status follows (T5), after the last segment of the window the record waits for the CTS (T3), otherwise
    only `next` and the deadline (now + interval) change -/
theorem sendWindow_one (cfg : Cfg) (now iv : Nat) (hiv : cfg.cmdtInterval = some iv) (msg : List Nat) (fuel : Nat)
    (b : Snd) (o : List Out) (j wn : Nat) (hdata : b.data = chunks60 msg) (hn : b.numSegments = Tp22.num_segments msg.length)
    (hnext : b.next = (j : Int)) (hw : b.waitOn = some (wn : Int)) (hle : j ≤ wn) (hwn : wn < Tp22.num_segments msg.length) :
    sendWindow cfg now (fuel + 1) b o =
      (if j + 1 = Tp22.num_segments msg.length then
        ({ b with next := ((j + 1 : Nat) : Int), deadline := now + Const.T22.T5, state := S_WAITING_EOM_ACK },
         o ++ dtFrames b.src b.dest b.session msg j 1 ++
           [.tx (Tp22.eom_status b.src b.dest b.session b.messageSize b.numSegments b.pgn 0 0)], none)
       else if j = wn then
        ({ b with next := ((j + 1 : Nat) : Int), state := S_WAITING_CTS, deadline := now + Const.T22.T3 },
         o ++ dtFrames b.src b.dest b.session msg j 1, none)
       else
        ({ b with next := ((j + 1 : Nat) : Int), deadline := now + iv }, o ++ dtFrames b.src b.dest b.session msg j 1, none)) := by
  rw [sendWindow_step cfg now fuel o hdata hn hnext hw (by omega), hiv]

theorem tickSndOne_window (cfg : Cfg) (now : Nat) {b b' : Snd} {o : List Out} (hd0 : b.deadline ≠ 0) (hdt : b.deadline ≤ now)
    (hs : b.state = S_SENDING_RTS_CTS) (hlt : b.next < (b.numSegments : Int))
    (hw : sendWindow cfg now ((↑b.numSegments - b.next).toNat + 1) b [] = (b', o, none))
    (hok : b'.state ≠ S_SENDING_RTS_CTS ∨ b'.next < (b'.numSegments : Int)) :
    tickSndOne cfg now b = (some b', o, none, some b'.deadline, .none) := by
  have hno : (b'.state == S_SENDING_RTS_CTS && decide (b'.next ≥ (b'.numSegments : Int))) = false := by
    rcases hok with h | h
    · simp [h]
    · simp [Int.not_le.2 h]
  rw [tickSndOne_sending_state cfg now b hd0 hdt hs]
  simp only [hlt, if_true, hw, Option.isNone_none, Bool.true_and, hno, Bool.false_eq_true, if_false]

theorem tickSndOne_rest (cfg : Cfg) (now : Nat) {msg : List Nat} {b : Snd} {j wn : Nat} (hfull : cfg.cmdtInterval = none ∨ j = wn)
    (hs : b.state = S_SENDING_RTS_CTS) (hdata : b.data = chunks60 msg) (hn : b.numSegments = Tp22.num_segments msg.length)
    (hnext : b.next = (j : Int)) (hw : b.waitOn = some (wn : Int)) (hle : j ≤ wn) (hwn : wn < Tp22.num_segments msg.length)
    (hd0 : b.deadline ≠ 0) (hdt : b.deadline ≤ now) :
    tickSndOne cfg now b =
      (if wn + 1 = Tp22.num_segments msg.length then
        (some { b with next := ((wn + 1 : Nat) : Int), deadline := now + Const.T22.T5, state := S_WAITING_EOM_ACK },
         dtFrames b.src b.dest b.session msg j (wn + 1 - j) ++
           [.tx (Tp22.eom_status b.src b.dest b.session b.messageSize b.numSegments b.pgn 0 0)], none, some (now + Const.T22.T5), .none)
       else
        (some { b with next := ((wn + 1 : Nat) : Int), state := S_WAITING_CTS, deadline := now + Const.T22.T3 },
         dtFrames b.src b.dest b.session msg j (wn + 1 - j), none, some (now + Const.T22.T3), .none)) := by
  have hW : sendWindow cfg now ((↑b.numSegments - b.next).toNat + 1) b [] = _ := hfull.elim
    (fun hiv => sendWindow_all cfg now hiv msg _ b [] j wn hdata hn hnext hw hle hwn (by omega))
    (fun hjw => by
      subst hjw
      rw [sendWindow_step cfg now _ [] hdata hn hnext hw hwn, if_pos rfl, Nat.add_sub_cancel_left])
  rw [List.nil_append] at hW
  by_cases hend : wn + 1 = Tp22.num_segments msg.length
  · rw [if_pos hend] at hW ⊢
    exact tickSndOne_window cfg now hd0 hdt hs (by omega) hW (.inl (by show S_WAITING_EOM_ACK ≠ _; decide))
  · rw [if_neg hend] at hW ⊢
    exact tickSndOne_window cfg now hd0 hdt hs (by omega) hW (.inl (by show S_WAITING_CTS ≠ _; decide))

/-- ORIGINATOR (FD), one due pass in SENDING_RTS_CTS with the window j … wn ahead (no minimum interval configured) -/
theorem tickSndOne_sending (cfg : Cfg) (now : Nat) (hiv : cfg.cmdtInterval = none) (msg : List Nat) (b : Snd) (j wn : Nat)
    (hs : b.state = S_SENDING_RTS_CTS) (hdata : b.data = chunks60 msg) (hn : b.numSegments = Tp22.num_segments msg.length)
    (hnext : b.next = (j : Int)) (hw : b.waitOn = some (wn : Int)) (hle : j ≤ wn) (hwn : wn < Tp22.num_segments msg.length)
    (hd0 : b.deadline ≠ 0) (hdt : b.deadline ≤ now) :
    tickSndOne cfg now b =
      (if wn + 1 = Tp22.num_segments msg.length then
        (some { b with next := ((wn + 1 : Nat) : Int), deadline := now + Const.T22.T5, state := S_WAITING_EOM_ACK },
         dtFrames b.src b.dest b.session msg j (wn + 1 - j) ++
           [.tx (Tp22.eom_status b.src b.dest b.session b.messageSize b.numSegments b.pgn 0 0)], none, some (now + Const.T22.T5), .none)
       else
        (some { b with next := ((wn + 1 : Nat) : Int), state := S_WAITING_CTS, deadline := now + Const.T22.T3 },
         dtFrames b.src b.dest b.session msg j (wn + 1 - j), none, some (now + Const.T22.T3), .none)) :=
  tickSndOne_rest cfg now (.inl hiv) hs hdata hn hnext hw hle hwn hd0 hdt

/-- ORIGINATOR (FD), one due pass in SENDING_RTS_CTS with a minimum interval configured and more than one segment of the
    window left: exactly segment j goes out, the record stays in SENDING_RTS_CTS and is due again after the interval -/
theorem tickSndOne_partial (cfg : Cfg) (now iv : Nat) (hiv : cfg.cmdtInterval = some iv) (msg : List Nat) (b : Snd) (j wn : Nat)
    (hs : b.state = S_SENDING_RTS_CTS) (hdata : b.data = chunks60 msg) (hn : b.numSegments = Tp22.num_segments msg.length)
    (hnext : b.next = (j : Int)) (hw : b.waitOn = some (wn : Int)) (hlt' : j < wn) (hwn : wn < Tp22.num_segments msg.length)
    (hd0 : b.deadline ≠ 0) (hdt : b.deadline ≤ now) :
    tickSndOne cfg now b =
      (some { b with next := ((j + 1 : Nat) : Int), deadline := now + iv }, dtFrames b.src b.dest b.session msg j 1, none,
       some (now + iv), .none) := by
  have hW := sendWindow_one cfg now iv hiv msg (↑b.numSegments - b.next).toNat b [] j wn hdata hn hnext hw (by omega) hwn
  rw [if_neg (by omega), if_neg (by omega), List.nil_append] at hW
  exact tickSndOne_window cfg now hd0 hdt hs (by omega) hW (.inr (by show ((j + 1 : Nat) : Int) < (b.numSegments : Int); omega))

/-- the receive record holds the first `j` segments of `msg`; the next CTS is due when segment number `border` arrives -/
structure RInv (msg : List Nat) (pgn j border mr : Nat) (r : Rcv) : Prop where
  hdata : r.data = msg.take (60 * j)
  hsize : r.messageSize = msg.length
  hnum  : r.numSegments = Tp22.num_segments msg.length
  hnext : r.nextPacket = j + 1
  hb    : r.ctsBorder = some border
  hmr   : r.maxRec = some mr
  hpgn  : r.pgn = pgn

/-- what the segments up to number `j'` (at most the border) leave at the responder of a destination-specific session — `o` its
    outputs since a segment of the same window, `s'` its state: the last segment of the message completes the record, and the
    responder waits for the end-of-message status; the segment at the border draws exactly one CTS, for the segments
    after the border; a segment before the border is only stored -/
def Stored (msg : List Nat) (pgn border mr sa dest session j' : Nat) (o : List Out) (s' : St) : Prop :=
  ∃ r', s'.rcv.get? (Tp22.buffer_hash session sa dest) = some r' ∧
    if j' = Tp22.num_segments msg.length then
      o = [.wake] ∧ r'.data = msg ∧ r'.messageSize = msg.length ∧ r'.numSegments = Tp22.num_segments msg.length ∧ r'.pgn = pgn
    else if j' < border then o = [] ∧ RInv msg pgn j' border mr r'
    else
      o = [.tx (Tp22.cts dest sa session (min mr (Tp22.num_segments msg.length - border)) (border + 1) pgn), .wake] ∧
      RInv msg pgn j' (min (border + mr) (Tp22.num_segments msg.length)) mr r'

theorem dt22_seg {s : St} (now : Nat) {mid : MessageId} {dest : Nat} {f : List Nat} {r : Rcv} {msg : List Nat} {session j pgn border mr : Nat}
    (hd : dest ≠ Const.Addr.GLOBAL)
    (hf : SegFrame msg session j f) (hr : s.rcv.get? (Tp22.buffer_hash session mid.source_address dest) = some r)
    (hi : RInv msg pgn j border mr r) (hjn : j < Tp22.num_segments msg.length) :
    (processDt s now mid dest f).err = none ∧
    Stored msg pgn border mr mid.source_address dest session (j + 1) (processDt s now mid dest f).outs (processDt s now mid dest f).st := by
  obtain ⟨hinner, hfinal⟩ := seg_data msg session j f r.data _ hf hi.hdata hi.hsize
  have hd' : (dest != Const.Addr.GLOBAL) = true := bne_iff_ne.2 hd
  rw [processDt_inorder hf.len hf.sess hf.seg (Nat.succ_ne_zero j) rfl hr hi.hnext, Stored]
  dsimp only
  by_cases hlast : j + 1 = Tp22.num_segments msg.length
  · -- the message is complete; cutting to the announced size removes the padding
    obtain ⟨e1, e2⟩ := hfinal hlast
    rw [if_pos e1, if_pos hd']
    refine ⟨rfl, _, PyDict.get?_set_self _ _ _, ?_⟩
    rw [if_pos hlast]
    exact ⟨rfl, e2, hi.hsize, hi.hnum, hi.hpgn⟩
  · obtain ⟨e1, e2⟩ := hinner (by omega)
    rw [if_neg (Nat.not_le.2 e2), if_pos hd', hi.hb, hi.hmr]
    dsimp only
    by_cases hjb : j + 1 < border
    · rw [if_neg (Nat.not_le.2 hjb)]
      refine ⟨rfl, _, PyDict.get?_set_self _ _ _, ?_⟩
      rw [if_neg hlast, if_pos hjb]
      exact ⟨rfl, { hi with hdata := e1, hnext := rfl, hb := rfl, hmr := rfl }⟩
    · rw [if_pos (Nat.le_of_not_lt hjb)]
      refine ⟨rfl, _, PyDict.get?_set_self _ _ _, ?_⟩
      rw [if_neg hlast, if_neg hjb, hi.hnum, hi.hpgn]
      exact ⟨rfl, { hdata := e1, hsize := hi.hsize, hnum := rfl, hnext := rfl, hb := rfl, hmr := rfl, hpgn := rfl }⟩

/-- inside a window, message incomplete: the segment is stored, nothing is sent -/
theorem dt22_mid (s : St) (now : Nat) (mid : MessageId) (dest : Nat) (f : List Nat) (r : Rcv) (msg : List Nat) (session j pgn border mr : Nat)
    (hpos : 0 < msg.length) (hd : dest ≠ Const.Addr.GLOBAL)
    (hf : SegFrame msg session j f) (hr : s.rcv.get? (Tp22.buffer_hash session mid.source_address dest) = some r)
    (hi : RInv msg pgn j border mr r) (hjb : j + 1 < border) (hjn : j + 1 < Tp22.num_segments msg.length) :
    (processDt s now mid dest f).outs = [] ∧ (processDt s now mid dest f).err = none ∧
    ∃ r', (processDt s now mid dest f).st.rcv.get? (Tp22.buffer_hash session mid.source_address dest) = some r' ∧
      RInv msg pgn (j + 1) border mr r' := by
  obtain ⟨he, r', hr', h⟩ := dt22_seg now hd hf hr hi (by omega)
  rw [if_neg (Nat.ne_of_lt hjn), if_pos hjb] at h
  exact ⟨h.1, he, r', hr', h.2⟩

/-- the segment that reaches the CTS border, message incomplete: exactly one CTS for the segments after the border -/
theorem dt22_window_end (s : St) (now : Nat) (mid : MessageId) (dest : Nat) (f : List Nat) (r : Rcv) (msg : List Nat) (session j pgn border mr : Nat)
    (hpos : 0 < msg.length) (hd : dest ≠ Const.Addr.GLOBAL)
    (hf : SegFrame msg session j f) (hr : s.rcv.get? (Tp22.buffer_hash session mid.source_address dest) = some r)
    (hi : RInv msg pgn j border mr r) (hjb : border ≤ j + 1) (hjn : j + 1 < Tp22.num_segments msg.length) :
    (processDt s now mid dest f).outs =
      [.tx (Tp22.cts dest mid.source_address session (min mr (Tp22.num_segments msg.length - border)) (border + 1) pgn), .wake] ∧
    (processDt s now mid dest f).err = none ∧
    ∃ r', (processDt s now mid dest f).st.rcv.get? (Tp22.buffer_hash session mid.source_address dest) = some r' ∧
      RInv msg pgn (j + 1) (min (border + mr) (Tp22.num_segments msg.length)) mr r' := by
  obtain ⟨he, r', hr', h⟩ := dt22_seg now hd hf hr hi (by omega)
  rw [if_neg (Nat.ne_of_lt hjn), if_neg (Nat.not_lt.2 hjb)] at h
  exact ⟨h.1, he, r', hr', h.2⟩

/-- the last segment of the message: the record holds exactly `msg` (padding cut off); nothing is sent — the responder
    now waits for the end-of-message status -/
theorem dt22_last (s : St) (now : Nat) (mid : MessageId) (dest : Nat) (f : List Nat) (r : Rcv) (msg : List Nat) (session j pgn border mr : Nat)
    (hpos : 0 < msg.length) (hd : dest ≠ Const.Addr.GLOBAL)
    (hf : SegFrame msg session j f) (hr : s.rcv.get? (Tp22.buffer_hash session mid.source_address dest) = some r)
    (hi : RInv msg pgn j border mr r) (hjn : j + 1 = Tp22.num_segments msg.length) :
    (processDt s now mid dest f).outs = [.wake] ∧ (processDt s now mid dest f).err = none ∧
    ∃ r', (processDt s now mid dest f).st.rcv.get? (Tp22.buffer_hash session mid.source_address dest) = some r' ∧
      r'.data = msg ∧ r'.messageSize = msg.length ∧ r'.numSegments = Tp22.num_segments msg.length ∧ r'.pgn = pgn := by
  obtain ⟨he, r', hr', h⟩ := dt22_seg now hd hf hr hi (by omega)
  rw [if_pos hjn] at h
  exact ⟨h.1, he, r', hr', h.2⟩

/-- RESPONDER (FD connection mode), the segment frames of ANY conforming originator that respects the window: a record that
    holds segments 0 … j−1 and expects the next CTS at segment number `border`, fed the frames of segments j … j'−1 with
    j' ≤ border.  Only the last of them can put anything out, so together they leave what `Stored` says of segment j' -/
theorem feed_segs {msg : List Nat} {pgn border mr : Nat} {mid : MessageId} {dest session : Nat}
    (hd : dest ≠ Const.Addr.GLOBAL) (hbn : border ≤ Tp22.num_segments msg.length) (frames : List (Nat × List Nat)) :
    ∀ (j : Nat) (s : St) (r : Rcv), frames ≠ [] → j + frames.length ≤ border →
    (∀ i (h : i < frames.length), SegFrame msg session (j + i) (frames[i]).2) →
    s.rcv.get? (Tp22.buffer_hash session mid.source_address dest) = some r → RInv msg pgn j border mr r →
    Stored msg pgn border mr mid.source_address dest session (j + frames.length) (feedDt s mid dest frames).2
      (feedDt s mid dest frames).1 := by
  induction frames with
  | nil => intro _ _ _ h; exact absurd rfl h
  | cons x rest ih =>
    obtain ⟨t, f⟩ := x
    intro j s r _ hle hframes hr hi
    rw [List.length_cons] at hle
    have hf : SegFrame msg session j f := hframes 0 (Nat.zero_lt_succ _)
    obtain ⟨-, h1⟩ := dt22_seg t hd hf hr hi (by omega)
    simp only [feedDt, List.length_cons]
    by_cases hlast : rest = []
    · subst hlast
      simpa only [feedDt, List.append_nil, List.length_nil] using h1
    · -- not the last frame: before the border and before the end of the message, so it puts out nothing
      have hlen := List.length_pos_iff.2 hlast
      obtain ⟨r', hr', h⟩ := h1
      rw [if_neg (by omega), if_pos (by omega)] at h
      rw [h.1, List.nil_append, ← Nat.add_assoc, Nat.add_right_comm j]
      exact ih (j + 1) _ r' hlast (by omega) (segFrames_tail hframes) hr' h.2

theorem feed_own {msg : List Nat} {pgn border mr : Nat} {mid : MessageId} {dest session : Nat} (src t : Nat)
    (hd : dest ≠ Const.Addr.GLOBAL) (hs : session < 16) (h24 : Tp22.num_segments msg.length < 16777216)
    {j : Nat} (j' : Nat) {s : St} {r : Rcv} (hj : j < j') (hj' : j' ≤ border) (hbn : border ≤ Tp22.num_segments msg.length)
    (hr : s.rcv.get? (Tp22.buffer_hash session mid.source_address dest) = some r) (hi : RInv msg pgn j border mr r) :
    Stored msg pgn border mr mid.source_address dest session j'
      (feedDt s mid dest ((List.replicate (j' - j) t).zip (dtDatas src dest session msg j (j' - j)))).2
      (feedDt s mid dest ((List.replicate (j' - j) t).zip (dtDatas src dest session msg j (j' - j)))).1 := by
  have hl : ((List.replicate (j' - j) t).zip (dtDatas src dest session msg j (j' - j))).length = j' - j := by simp [dtDatas]
  have h := feed_segs hd hbn _ j s r (List.ne_nil_of_length_pos (by omega)) (by omega)
    (dtDatas_segframes msg src dest session hs h24 (List.replicate (j' - j) t) j (j' - j) (by omega)) hr hi
  rwa [hl, Nat.add_sub_of_le (Nat.le_of_lt hj)] at h

/-- the frames of a pass that ends a window but not the message: exactly one CTS, nothing delivered -/
theorem feed_window (msg : List Nat) (pgn mr : Nat) (mid : MessageId) (dest session src t : Nat) (hpos : 0 < msg.length)
    (hd : dest ≠ Const.Addr.GLOBAL) (hs : session < 16) (h24 : Tp22.num_segments msg.length < 16777216)
    (j wn : Nat) (s : St) (r : Rcv) (hj : j ≤ wn) (hwn : wn + 1 < Tp22.num_segments msg.length)
    (hr : s.rcv.get? (Tp22.buffer_hash session mid.source_address dest) = some r) (hi : RInv msg pgn j (wn + 1) mr r) :
    let q := feedDt s mid dest ((List.replicate (wn + 1 - j) t).zip (dtDatas src dest session msg j (wn + 1 - j)))
    txFrames q.2 = [Tp22.cts dest mid.source_address session (min mr (Tp22.num_segments msg.length - (wn + 1))) (wn + 2) pgn] ∧
    deliveries q.2 = [] ∧
    ∃ r', q.1.rcv.get? (Tp22.buffer_hash session mid.source_address dest) = some r' ∧
      RInv msg pgn (wn + 1) (min (wn + 1 + mr) (Tp22.num_segments msg.length)) mr r' := by
  obtain ⟨r', hr', h⟩ := feed_own src t hd hs h24 (wn + 1) (Nat.lt_succ_of_le hj)
    (Nat.le_refl _) (Nat.le_of_lt hwn) hr hi
  rw [if_neg (Nat.ne_of_lt hwn), if_neg (Nat.lt_irrefl _)] at h
  dsimp only
  rw [h.1]
  exact ⟨rfl, rfl, r', hr', h.2⟩

/-- the frames of a pass that reaches the end of the message: nothing is sent yet, the record holds the whole message -/
theorem feed_last (msg : List Nat) (pgn mr : Nat) (mid : MessageId) (dest session src t : Nat) (hpos : 0 < msg.length)
    (hd : dest ≠ Const.Addr.GLOBAL) (hs : session < 16) (h24 : Tp22.num_segments msg.length < 16777216)
    (j wn : Nat) (s : St) (r : Rcv) (hj : j ≤ wn) (hwn : wn + 1 = Tp22.num_segments msg.length)
    (hr : s.rcv.get? (Tp22.buffer_hash session mid.source_address dest) = some r) (hi : RInv msg pgn j (wn + 1) mr r) :
    let q := feedDt s mid dest ((List.replicate (wn + 1 - j) t).zip (dtDatas src dest session msg j (wn + 1 - j)))
    txFrames q.2 = [] ∧ deliveries q.2 = [] ∧
    ∃ r', q.1.rcv.get? (Tp22.buffer_hash session mid.source_address dest) = some r' ∧
      r'.data = msg ∧ r'.messageSize = msg.length ∧ r'.numSegments = Tp22.num_segments msg.length ∧ r'.pgn = pgn := by
  obtain ⟨r', hr', h⟩ := feed_own src t hd hs h24 (wn + 1) (Nat.lt_succ_of_le hj)
    (Nat.le_refl _) (Nat.le_of_eq hwn) hr hi
  rw [if_pos hwn] at h
  dsimp only
  rw [h.1]
  exact ⟨rfl, rfl, r', hr', h.2⟩

/-- RESPONDER (FD), the end-of-message status of the stack for a record that holds the whole message: ONE delivery,
    the acknowledgement, the record is removed -/
theorem eoms_accepted (cfg : Cfg) (s : St) (now : Nat) (mid : MessageId) (dest session pgn : Nat) (msg : List Nat) (r : Rcv)
    (hsrc : mid.source_address ≠ Const.Addr.GLOBAL) (hd : dest ≠ Const.Addr.GLOBAL) (hs : session < 16)
    (hlen : msg.length < 16777216) (h24 : Tp22.num_segments msg.length < 16777216) (hp : pgn < 16777216)
    (hr : s.rcv.get? (Tp22.buffer_hash session mid.source_address dest) = some r)
    (h1 : r.data = msg) (h2 : r.messageSize = msg.length) (h3 : r.numSegments = Tp22.num_segments msg.length) (h4 : r.pgn = pgn) :
    let f := Tp22.eom_status mid.source_address dest session msg.length (Tp22.num_segments msg.length) pgn 0 0
    (processCm cfg s now mid dest f.data).outs =
      [.notify mid.priority pgn mid.source_address dest msg,
       .tx (Tp22.eom_ack dest mid.source_address session msg.length (Tp22.num_segments msg.length) pgn)] ∧
    (processCm cfg s now mid dest f.data).err = none ∧
    (processCm cfg s now mid dest f.data).st.rcv.get? (Tp22.buffer_hash session mid.source_address dest) = none := by
  have hd' : (dest != Const.Addr.GLOBAL) = true := bne_iff_ne.2 hd
  dsimp only
  rw [processCm_eoms (eoms_frame _ dest session msg.length _ pgn hs hp hlen h24) rfl hsrc hr h2 h3 (by rw [h1]), hd', h1, h4]
  exact ⟨rfl, rfl, PyDict.get?_erase_self _ _⟩

/-- a CTS of the responder for segment j+1 granting g segments: the record is due at once and will send j … j+g−1 -/
theorem cts_accepted (cfg : Cfg) (s : St) (now : Nat) (mid : MessageId) (dest session pgn : Nat) (b : Snd) (j g : Nat)
    (hsrc : mid.source_address ≠ Const.Addr.GLOBAL) (hs : session < 16) (hp : pgn < 16777216)
    (hb : s.snd.get? (Tp22.buffer_hash session dest mid.source_address) = some b)
    (hg : 0 < g) (hg256 : g < 256) (hgc : g ≤ cfg.maxCmdt) (hfit : j + g ≤ b.numSegments) (h24 : b.numSegments < 16777216) :
    processCm cfg s now mid dest (Tp22.cts mid.source_address dest session g (j + 1) pgn).data =
      { st := { s with snd := s.snd.set (Tp22.buffer_hash session dest mid.source_address)
                                ({ b with next := (j : Int), waitOn := some (((j + g - 1 : Nat) : Int)), state := S_SENDING_RTS_CTS,
                                          deadline := now }) },
        outs := [.wake] } :=
  processCm_cts (cm_frame _ dest 1 session 16777215 (j + 1) g 0 pgn 7 (by omega) hs (by omega) (by omega) hg256 hp) rfl hsrc hb hg hgc hfit

/-- the end-of-message acknowledgement of the responder: reported once, the record is finished and due at once -/
theorem eoma_accepted (cfg : Cfg) (s : St) (now : Nat) (mid : MessageId) (dest session pgn size n : Nat) (b : Snd)
    (hsrc : mid.source_address ≠ Const.Addr.GLOBAL) (hs : session < 16) (hp : pgn < 16777216) (hz : size < 16777216) (hn : n < 16777216)
    (hb : s.snd.get? (Tp22.buffer_hash session dest mid.source_address) = some b) :
    processCm cfg s now mid dest (Tp22.eom_ack mid.source_address dest session size n pgn).data =
      { st := { s with snd := s.snd.set (Tp22.buffer_hash session dest mid.source_address)
                                ({ b with state := S_EOM_ACK_RECEIVED, deadline := now }) },
        outs := [.notify mid.priority pgn mid.source_address dest (Tp22.eom_ack mid.source_address dest session size n pgn).data, .wake] } :=
  processCm_eoma (cm_frame _ dest 3 session size n 255 255 pgn 7 (by omega) hs hz hn (by omega) hp) rfl hsrc hb

/-- RESPONDER, the RTS of the originator on a free (session, pair): a receive record and one CTS for segment 1 granting
    min(own maximum, announced limit, segments) -/
theorem rts_accepted (cfg : Cfg) (s : St) (now : Nat) (mid : MessageId) (dest prio session pgn size n mx : Nat)
    (hsrc : mid.source_address ≠ Const.Addr.GLOBAL) (hs : session < 16) (hp : pgn < 16777216) (hz : size < 16777216)
    (hn : n < 16777216) (hm : mx < 256)
    (hfree : s.rcv.contains (Tp22.buffer_hash session mid.source_address dest) = false) :
    processCm cfg s now mid dest (Tp22.rts prio mid.source_address dest session pgn size n mx 0).data =
      { st := { s with rcv := s.rcv.set (Tp22.buffer_hash session mid.source_address dest)
                                ({ pgn := pgn, session := session, messageSize := size, numSegments := n, nextPacket := 1,
                                   ctsBorder := some (min cfg.maxCmdt (min mx n)), maxRec := some (min cfg.maxCmdt (min mx n)),
                                   data := [], deadline := now + Const.T22.T2, src := mid.source_address, dest := dest }) },
        outs := [.tx (Tp22.cts dest mid.source_address session (min cfg.maxCmdt (min mx n)) 1 pgn), .wake] } :=
  processCm_rts (cm_frame _ dest 0 session size n mx 0 pgn prio (by omega) hs hz hn hm hp) rfl hsrc hfree

/-- DISPATCH (FD): the identifier the FD builders compose (priority, PF 0x4D / 0x4E, destination, source) parses back to
    those fields and `notify` hands the frame to `_process_tp_cm` / `_process_tp_dt` -/
theorem fd_dispatch (cfg : Cfg) (s : St) (now : Nat) (acc : Nat → Bool) (prio da sa : Nat) (data : List Nat)
    (hp : prio < 8) (hda : da < 256) (hsa : sa < 256) (hacc : da = 255 ∨ acc da = true) :
    let idCm := MessageId.can_id (MessageId.ofFields prio (PGN.value (PGN.ofFields 0 77 da)) sa)
    let idDt := MessageId.can_id (MessageId.ofFields prio (PGN.value (PGN.ofFields 0 78 da)) sa)
    (MessageId.ofCanId idCm).source_address = sa ∧ (MessageId.ofCanId idCm).priority = prio ∧
    (MessageId.ofCanId idDt).source_address = sa ∧ (MessageId.ofCanId idDt).priority = prio ∧
    notify cfg s now acc idCm data = processCm cfg s now (MessageId.ofCanId idCm) da data ∧
    notify cfg s now acc idDt data = processDt s now (MessageId.ofCanId idDt) da data := by
  obtain ⟨a1, a2, a3⟩ := Dll21.tp_id_parse prio 77 da sa hp (by omega) hda hsa
  obtain ⟨b1, b2, b3⟩ := Dll21.tp_id_parse prio 78 da sa hp (by omega) hda hsa
  have hacc' := Dll21.accept_guard acc da hacc
  refine ⟨a1, a2, b1, b2, ?_, ?_⟩
  · unfold notify
    simp only [a3, hacc', Dll21.npv_pdu1 77 da (by omega) hda]
    rfl
  · unfold notify
    simp only [b3, hacc', Dll21.npv_pdu1 78 da (by omega) hda]
    rfl

/-- a node receives the given frames through `notify`, all at time `t` -/
def rxAll (cfg : Cfg) (acc : Nat → Bool) (t : Nat) : St → List Frame → St × List Out
  | s, [] => (s, [])
  | s, f :: fs =>
    let r := notify cfg s t acc f.id f.data
    let q := rxAll cfg acc t r.st fs
    (q.1, r.outs ++ q.2)

theorem rxAll_append (cfg : Cfg) (acc : Nat → Bool) (t : Nat) (s : St) (a b : List Frame) :
    rxAll cfg acc t s (a ++ b) = ((rxAll cfg acc t (rxAll cfg acc t s a).1 b).1, (rxAll cfg acc t s a).2 ++ (rxAll cfg acc t (rxAll cfg acc t s a).1 b).2) := by
  induction a generalizing s with
  | nil => simp [rxAll]
  | cons f a ih => simp only [List.cons_append, rxAll, ih, List.append_assoc]

theorem rxAll_cm (cfg : Cfg) (acc : Nat → Bool) (t prio sa da : Nat) (hp : prio < 8) (hsa : sa < 256) (hda : da < 256)
    (hacc : acc da = true) :
    ∃ mid : MessageId, mid.source_address = sa ∧ mid.priority = prio ∧ ∀ (s : St) (f : Frame),
      f.id = MessageId.can_id (MessageId.ofFields prio (PGN.value (PGN.ofFields 0 77 da)) sa) →
      rxAll cfg acc t s [f] = ((processCm cfg s t mid da f.data).st, (processCm cfg s t mid da f.data).outs) := by
  obtain ⟨p1, p2, _⟩ := Dll21.tp_id_parse prio 77 da sa hp (by omega) hda hsa
  refine ⟨_, p1, p2, fun s f hid => ?_⟩
  simp only [rxAll, hid, List.append_nil]
  rw [(fd_dispatch cfg s t acc prio da sa f.data hp hda hsa (.inr hacc)).2.2.2.2.1]

theorem rxAll_dt (cfg : Cfg) (acc : Nat → Bool) (t sa da session : Nat) (msg : List Nat) (hsa : sa < 256) (hda : da < 256)
    (hacc : acc da = true) :
    ∃ mid : MessageId, mid.source_address = sa ∧ ∀ (a n : Nat) (s : St),
      rxAll cfg acc t s (txFrames (dtFrames sa da session msg a n)) =
        feedDt s mid da ((List.replicate n t).zip (dtDatas sa da session msg a n)) := by
  refine ⟨_, (Dll21.tp_id_parse 7 78 da sa (by omega) (by omega) hda hsa).1, fun a n s => ?_⟩
  have hid : ∀ seg d, (Tp22.dt Const.LUT_FD_DLC sa da session seg d 0).id =
      MessageId.can_id (MessageId.ofFields 7 (PGN.value (PGN.ofFields 0 78 da)) sa) := by
    intro seg d; unfold Tp22.dt; rfl
  rw [dtFrames, dtDatas, txFrames_map]
  induction n generalizing a s with
  | zero => rfl
  | succ n ih =>
    simp only [List.range'_succ, List.map_cons, rxAll, List.replicate_succ, List.zip_cons_cons, feedDt, hid]
    rw [(fd_dispatch cfg s t acc 7 da sa _ (by omega) hda hsa (.inr hacc)).2.2.2.2.2, ih]

/-- one ROUND of the session number `i` from `sa` to `da`: the originator's pass serves the send record at `x.1`; the
    responder receives that pass's frames through `notify` at `x.2.1`; the originator receives the responder's answers
    through `notify` at `x.2.2`.  None: the originator has no such record.  Result: both states, the responder's
    outputs, the originator's outputs while handling the answers, and the session number the pass released -/
def round (cfgO cfgR : Cfg) (accO accR : Nat → Bool) (i sa da : Nat) (x : Nat × Nat × Nat) (sO sR : St) :
    Option (St × St × List Out × List Out × Release) :=
  match sO.snd.get? (Tp22.buffer_hash i sa da) with
  | none => none
  | some b =>
    let p := tickSndOne cfgO x.1 b
    let sO1 := sndApply sO (Tp22.buffer_hash i sa da) p.1
    let q := rxAll cfgR accR x.2.1 sR (txFrames p.2.1)
    let a := rxAll cfgO accO x.2.2 sO1 (txFrames q.2)
    some (a.1, q.1, q.2, a.2, p.2.2.2.2)

/-- the originator's record between rounds: segments 0 … j−1 are out, it may send up to segment `wn` (0-based) -/
structure OInv (msg : List Nat) (i sa da pgn j wn : Nat) (b : Snd) : Prop where
  hdata  : b.data = chunks60 msg
  hnum   : b.numSegments = Tp22.num_segments msg.length
  hsize  : b.messageSize = msg.length
  hnext  : b.next = (j : Int)
  hwait  : b.waitOn = some (wn : Int)
  hstate : b.state = S_SENDING_RTS_CTS
  hdl    : b.deadline ≠ 0
  hsess  : b.session = i
  hsrc   : b.src = sa
  hdest  : b.dest = da
  hpgn   : b.pgn = pgn

theorem round_eq {cfgO cfgR : Cfg} {accO accR : Nat → Bool} {i sa da : Nat} {x : Nat × Nat × Nat} {sO sR : St} {b b' : Snd}
    {o : List Out} {e : Option PyErr} {nw : Option Nat} {rel : Release} (hb : sO.snd.get? (Tp22.buffer_hash i sa da) = some b)
    (hp : tickSndOne cfgO x.1 b = (some b', o, e, nw, rel)) :
    round cfgO cfgR accO accR i sa da x sO sR =
      (let q := rxAll cfgR accR x.2.1 sR (txFrames o)
       let a := rxAll cfgO accO x.2.2 { sO with snd := sO.snd.set (Tp22.buffer_hash i sa da) b' } (txFrames q.2)
       some (a.1, q.1, q.2, a.2, rel)) := by
  simp only [round, hb, hp, sndApply]

theorem rx_segs (cfg : Cfg) (acc : Nat → Bool) (t : Nat) {s : St} {msg : List Nat} {i sa da pgn border mr j : Nat} (j' : Nat) {r : Rcv}
    (h24 : Tp22.num_segments msg.length < 16777216) (hi16 : i < 16) (hsa : sa < 256) (hda : da < 256)
    (hdne : da ≠ 255) (hacc : acc da = true) (hj : j < j') (hj' : j' ≤ border) (hbn : border ≤ Tp22.num_segments msg.length)
    (hr : s.rcv.get? (Tp22.buffer_hash i sa da) = some r) (rb : RInv msg pgn j border mr r) :
    Stored msg pgn border mr sa da i j' (rxAll cfg acc t s (txFrames (dtFrames sa da i msg j (j' - j)))).2
      (rxAll cfg acc t s (txFrames (dtFrames sa da i msg j (j' - j)))).1 := by
  obtain ⟨mid, rfl, hdt⟩ := rxAll_dt cfg acc t sa da i msg hsa hda hacc
  rw [hdt]
  exact feed_own _ t hdne hi16 h24 j' hj hj' hbn hr rb

theorem rx_last (cfg : Cfg) (acc : Nat → Bool) (t : Nat) {s : St} {msg : List Nat} {i sa da pgn mr j wn : Nat} {r : Rcv}
    (hlen : msg.length < 16777216) (h24 : Tp22.num_segments msg.length < 16777216) (hp : pgn < 16777216)
    (hi16 : i < 16) (hsa : sa < 256) (hda : da < 256) (hdne : da ≠ 255) (hsne : sa ≠ 255) (hacc : acc da = true)
    (hj : j ≤ wn) (hwn : wn + 1 = Tp22.num_segments msg.length)
    (hr : s.rcv.get? (Tp22.buffer_hash i sa da) = some r) (rb : RInv msg pgn j (wn + 1) mr r) :
    let q := rxAll cfg acc t s (txFrames (dtFrames sa da i msg j (wn + 1 - j) ++
      [.tx (Tp22.eom_status sa da i msg.length (Tp22.num_segments msg.length) pgn 0 0)]))
    txFrames q.2 = [Tp22.eom_ack da sa i msg.length (Tp22.num_segments msg.length) pgn] ∧ deliveries q.2 = [(7, pgn, sa, da, msg)] ∧
    q.1.rcv.get? (Tp22.buffer_hash i sa da) = none := by
  obtain ⟨mid, rfl, mp, hcm⟩ := rxAll_cm cfg acc t 7 sa da (by omega) hsa hda hacc
  -- the segments reach the end of the message: the record `r1` then holds all of `msg` and only a wake-up went out (`Stored`, first case)
  obtain ⟨r1, hr1, h⟩ := rx_segs cfg acc t (wn + 1) h24 hi16 hsa hda hdne hacc
    (Nat.lt_succ_of_le hj) (Nat.le_refl _) (Nat.le_of_eq hwn) hr rb
  rw [if_pos hwn] at h
  obtain ⟨houts, hdata, hsize, hnum, hpgn⟩ := h
  rw [txFrames_append, rxAll_append]
  generalize rxAll cfg acc t s (txFrames (dtFrames mid.source_address da i msg j (wn + 1 - j))) = q1 at houts hr1 ⊢
  -- the end-of-message status, dispatched to `processCm` (`hcm`), delivers it, acknowledges and removes the record
  obtain ⟨hEouts, -, hgone⟩ := eoms_accepted cfg q1.1 t mid da i pgn msg r1 hsne hdne hi16 hlen h24 hp hr1 hdata hsize hnum hpgn
  have hE : rxAll cfg acc t q1.1 (txFrames [.tx (Tp22.eom_status mid.source_address da i msg.length (Tp22.num_segments msg.length) pgn 0 0)]) = _ :=
    hcm q1.1 _ rfl
  rw [hE, hEouts, houts, mp]
  dsimp only
  exact ⟨rfl, rfl, hgone⟩

/-- ONE ROUND (FD connection mode, with or without a minimum packet interval) keeps the session invariant with MORE
    segments transferred, or completes the transfer -/
theorem c02_rtscts_round (cfgO cfgR : Cfg) (accO accR : Nat → Bool) (msg : List Nat) (i sa da pgn mr : Nat)
    (hpos : 0 < msg.length) (hlen : msg.length < 16777216) (hp : pgn < 16777216) (hi16 : i < 16)
    (hsa : sa < 256) (hda : da < 256) (hdne : da ≠ 255) (hsne : sa ≠ 255) (haO : accO sa = true) (haR : accR da = true)
    (hmr : 0 < mr) (hmr256 : mr < 256) (hmrO : mr ≤ cfgO.maxCmdt)
    (x : Nat × Nat × Nat) (sO sR : St) (j wn : Nat) (b : Snd) (r : Rcv)
    (hj : j ≤ wn) (hwn : wn < Tp22.num_segments msg.length)
    (hb : sO.snd.get? (Tp22.buffer_hash i sa da) = some b) (hr : sR.rcv.get? (Tp22.buffer_hash i sa da) = some r)
    (ob : OInv msg i sa da pgn j wn b) (rb : RInv msg pgn j (wn + 1) mr r)
    (hdue : b.deadline ≤ x.1) (ht : 0 < x.1) (htO : 0 < x.2.2) :
    ∃ sO' sR' oR oO, round cfgO cfgR accO accR i sa da x sO sR = some (sO', sR', oR, oO, .none) ∧
      ((∃ j' wn' b' r', j < j' ∧ j' ≤ wn' ∧ wn' < Tp22.num_segments msg.length ∧
          sO'.snd.get? (Tp22.buffer_hash i sa da) = some b' ∧ sR'.rcv.get? (Tp22.buffer_hash i sa da) = some r' ∧
          OInv msg i sa da pgn j' wn' b' ∧ RInv msg pgn j' (wn' + 1) mr r' ∧
          b'.deadline ≤ max x.2.2 (x.1 + cfgO.cmdtInterval.getD 0) ∧ deliveries oR = [] ∧ deliveries oO = []) ∨
       (deliveries oR = [(7, pgn, sa, da, msg)] ∧ sR'.rcv.get? (Tp22.buffer_hash i sa da) = none ∧
        deliveries oO = [(7, pgn, da, sa, (Tp22.eom_ack da sa i msg.length (Tp22.num_segments msg.length) pgn).data)] ∧
        ∃ bf, sO'.snd.get? (Tp22.buffer_hash i sa da) = some bf ∧ bf.state = S_EOM_ACK_RECEIVED ∧ bf.deadline = x.2.2 ∧
          bf.session = i)) := by
  have h24 := Nat.lt_of_le_of_lt (num_segments_le msg.length) hlen
  -- the answers reach the originator (which accepts its own address) under an identifier with the responder's address
  obtain ⟨midA, rfl, mp, hA⟩ := rxAll_cm cfgO accO x.2.2 7 da sa (by omega) hda hsa haO
  by_cases hfull : cfgO.cmdtInterval = none ∨ j = wn
  · -- the pass sends the whole rest of the window
    have hpass := tickSndOne_rest cfgO x.1 hfull ob.hstate ob.hdata ob.hnum ob.hnext ob.hwait hj hwn ob.hdl hdue
    rw [ob.hsrc, ob.hdest, ob.hsess] at hpass
    by_cases hend : wn + 1 = Tp22.num_segments msg.length
    · -- the window reaches the end of the message: the segments, the end-of-message status, the acknowledgement
      rw [if_pos hend, ob.hsize, ob.hnum, ob.hpgn] at hpass
      obtain ⟨q1, q2, q3⟩ := rx_last cfgR accR x.2.1 hlen h24 hp hi16 hsa hda hdne hsne haR hj hend hr rb
      rw [round_eq hb hpass]
      dsimp only
      rw [q1, hA _ _ rfl, eoma_accepted cfgO { sO with snd := sO.snd.set _ _ } x.2.2 midA sa i pgn msg.length _ _ hdne hi16 hp hlen h24
        (PyDict.get?_set_self _ _ _), mp]
      exact ⟨_, _, _, _, rfl, .inr ⟨q2, q3, rfl, _, PyDict.get?_set_self _ _ _, rfl, rfl, rfl⟩⟩
    · -- the window ends before the message does: the segments, the CTS for the next window
      rw [if_neg hend] at hpass
      obtain ⟨r', q3, hq⟩ := rx_segs cfgR accR x.2.1 (wn + 1) h24 hi16 hsa hda hdne haR
        (Nat.lt_succ_of_le hj) (Nat.le_refl _) hwn hr rb
      rw [if_neg hend, if_neg (Nat.lt_irrefl _)] at hq
      obtain ⟨q1, q4⟩ := hq
      obtain ⟨hg0, hgn, hb'⟩ := grant_spec hmr (Nat.lt_of_le_of_ne hwn hend : wn + 1 < Tp22.num_segments msg.length)
      have hgm := Nat.min_le_left mr (Tp22.num_segments msg.length - (wn + 1))
      generalize min mr (Tp22.num_segments msg.length - (wn + 1)) = g at q1 hg0 hgn hb' hgm
      rw [hb', Nat.add_right_comm] at q4
      rw [round_eq hb hpass]
      dsimp only
      rw [q1, txFrames_tx_wake, hA _ _ rfl,
        cts_accepted cfgO { sO with snd := sO.snd.set _ _ } x.2.2 midA _ i pgn _ (wn + 1) g hdne hi16 hp (PyDict.get?_set_self _ _ _)
          hg0 (Nat.lt_of_le_of_lt hgm hmr256) (Nat.le_trans hgm hmrO)
          (by show wn + 1 + g ≤ b.numSegments; rw [ob.hnum]; exact hgn)
          (by show b.numSegments < _; rw [ob.hnum]; exact h24)]
      refine ⟨_, _, _, _, rfl, .inl ⟨wn + 1, wn + g, _, r', Nat.lt_succ_of_le hj, Nat.add_le_add_left hg0 wn, (show wn + g + 1 ≤ _ from Nat.add_right_comm wn 1 g ▸ hgn),
        PyDict.get?_set_self _ _ _, q3,
        { ob with hnext := rfl, hwait := ?_, hstate := rfl, hdl := Nat.ne_of_gt htO, hsess := rfl, hsrc := rfl, hdest := rfl }, q4, Nat.le_max_left _ _, rfl, rfl⟩⟩
      show some (((wn + 1 + g - 1 : Nat) : Int)) = some (((wn + g : Nat) : Int))
      rw [Nat.add_right_comm, Nat.add_sub_cancel]
  · -- a minimum interval holds the rest of the window back: one segment, no answer
    cases hiv : cfgO.cmdtInterval with
    | none => exact absurd (.inl hiv) hfull
    | some iv =>
      have hjw : j < wn := Nat.lt_of_le_of_ne hj (fun h => hfull (.inr h))
      have hpass := tickSndOne_partial cfgO x.1 iv hiv msg b j wn ob.hstate ob.hdata ob.hnum ob.hnext ob.hwait hjw hwn ob.hdl hdue
      rw [ob.hsrc, ob.hdest, ob.hsess] at hpass
      have hq := rx_segs cfgR accR x.2.1 (j + 1) h24 hi16 hsa hda hdne haR
        (Nat.lt_succ_self j) (Nat.succ_le_succ (Nat.le_of_lt hjw)) hwn hr rb
      rw [Nat.add_sub_cancel_left] at hq
      obtain ⟨r', q3, hq⟩ := hq
      rw [if_neg (Nat.ne_of_lt (Nat.lt_of_lt_of_le (Nat.succ_lt_succ hjw) hwn)), if_pos (Nat.succ_lt_succ hjw)] at hq
      rw [round_eq hb hpass]
      dsimp only
      rw [hq.1]
      exact ⟨_, _, _, _, rfl, .inl ⟨j + 1, wn, _, r', Nat.lt_succ_self j, hjw, hwn, PyDict.get?_set_self _ _ _, q3,
        { ob with hnext := rfl, hdl := Nat.ne_of_gt (Nat.lt_of_lt_of_le ht (Nat.le_add_right _ _)), hsess := rfl, hsrc := rfl, hdest := rfl }, hq.2,
        Nat.le_max_right _ _, rfl, rfl⟩⟩

/-- rounds until the list ends, the originator's record is gone, or a round released the session number -/
def run (cfgO cfgR : Cfg) (accO accR : Nat → Bool) (i sa da : Nat) : List (Nat × Nat × Nat) → St → St → St × St × List Out × List Out × Release
  | [], sO, sR => (sO, sR, [], [], .none)
  | x :: xs, sO, sR =>
    match round cfgO cfgR accO accR i sa da x sO sR with
    | none => (sO, sR, [], [], .none)
    | some (sO', sR', oR, oO, .none) =>
      let q := run cfgO cfgR accO accR i sa da xs sO' sR'
      (q.1, q.2.1, oR ++ q.2.2.1, oO ++ q.2.2.2.1, q.2.2.2.2)
    | some (sO', sR', oR, oO, rel) => (sO', sR', oR, oO, rel)

/-- every round's pass finds the record due: not before the deadline `d`, and the next one not before the answers of
    this round were handled nor before the configured minimum packet interval has passed -/
def Sched (cfg : Cfg) : Nat → List (Nat × Nat × Nat) → Prop
  | _, [] => True
  | d, x :: xs => d ≤ x.1 ∧ 0 < x.1 ∧ 0 < x.2.2 ∧ Sched cfg (max x.2.2 (x.1 + cfg.cmdtInterval.getD 0)) xs

theorem round_final (cfgO cfgR : Cfg) (accO accR : Nat → Bool) (i sa da : Nat) (x : Nat × Nat × Nat) (sO sR : St) (b : Snd)
    (hb : sO.snd.get? (Tp22.buffer_hash i sa da) = some b) (hs : b.state = S_EOM_ACK_RECEIVED) (hd0 : b.deadline ≠ 0)
    (hdue : b.deadline ≤ x.1) (hsess : b.session = i) :
    round cfgO cfgR accO accR i sa da x sO sR =
      some ({ sO with snd := sO.snd.erase (Tp22.buffer_hash i sa da) }, sR, [], [], .rts i) := by
  simp only [round, hb, tickSndOne_over_state cfgO x.1 b hd0 hdue (.inr (.inl hs)), hsess, txFrames, List.filterMap_nil, rxAll, sndApply]

/-- THE SESSION RUNS TO COMPLETION (FD connection mode): from any state of the invariant, any schedule of due rounds that
    is long enough delivers the message exactly once, reports exactly one acknowledgement, leaves no record on either
    side and returns the session number to the RTS/CTS pool -/
theorem run_delivers (cfgO cfgR : Cfg) (accO accR : Nat → Bool) (msg : List Nat) (i sa da pgn mr : Nat)
    (hpos : 0 < msg.length) (hlen : msg.length < 16777216) (hp : pgn < 16777216) (hi16 : i < 16)
    (hsa : sa < 256) (hda : da < 256) (hdne : da ≠ 255) (hsne : sa ≠ 255) (haO : accO sa = true) (haR : accR da = true)
    (hmr : 0 < mr) (hmr256 : mr < 256) (hmrO : mr ≤ cfgO.maxCmdt) (m : Nat) :
    ∀ (xs : List (Nat × Nat × Nat)) (sO sR : St) (j wn d : Nat) (b : Snd) (r : Rcv),
    Tp22.num_segments msg.length - j ≤ m → j ≤ wn → wn < Tp22.num_segments msg.length →
    sO.snd.get? (Tp22.buffer_hash i sa da) = some b → sR.rcv.get? (Tp22.buffer_hash i sa da) = some r →
    OInv msg i sa da pgn j wn b → RInv msg pgn j (wn + 1) mr r → b.deadline ≤ d → Sched cfgO d xs → m + 1 ≤ xs.length →
    let q := run cfgO cfgR accO accR i sa da xs sO sR
    deliveries q.2.2.1 = [(7, pgn, sa, da, msg)] ∧ q.2.1.rcv.get? (Tp22.buffer_hash i sa da) = none ∧
    deliveries q.2.2.2.1 = [(7, pgn, da, sa, (Tp22.eom_ack da sa i msg.length (Tp22.num_segments msg.length) pgn).data)] ∧
    q.1.snd.get? (Tp22.buffer_hash i sa da) = none ∧ q.2.2.2.2 = .rts i := by
  induction m with
  | zero => intro xs sO sR j wn d b r h1 h2 h3; omega
  | succ m ih =>
    intro xs sO sR j wn d b r hm hj hwn hb hr ob rb hdl hsched hxs
    obtain ⟨x, xs, rfl⟩ := List.exists_cons_of_length_pos (Nat.lt_of_lt_of_le (Nat.zero_lt_succ _) hxs)
    simp only [List.length_cons, Nat.add_le_add_iff_right] at hxs
    obtain ⟨s1, s1', s2, s3⟩ := hsched
    obtain ⟨sO', sR', oR, oO, hround, hcase⟩ := c02_rtscts_round cfgO cfgR accO accR msg i sa da pgn mr hpos hlen hp hi16 hsa hda hdne hsne
      haO haR hmr hmr256 hmrO x sO sR j wn b r hj hwn hb hr ob rb (Nat.le_trans hdl s1) s1' s2
    simp only [run, hround]
    rcases hcase with ⟨j', wn', b', r', hjj', hj', hwn', hb', hr', ob', rb', hdl', quietR, quietO⟩ | ⟨dR, goneR, dO, bf, hbf, hst, hdlf, hsess⟩
    · -- more segments transferred, nothing delivered: the rest of the schedule does it
      rw [deliveries_append, deliveries_append, quietR, quietO]
      exact ih xs sO' sR' j' wn' _ b' r' (by omega) hj' hwn' hb' hr' ob' rb' hdl' s3 hxs
    · -- delivered and acknowledged: the record is due at `x.2.2`, the next round deletes it, releases the number and ends the run
      obtain ⟨x', xs', rfl⟩ := List.exists_cons_of_length_pos (Nat.lt_of_lt_of_le (Nat.zero_lt_succ _) hxs)
      obtain ⟨t1, _, _, _⟩ := s3
      have hfin := round_final cfgO cfgR accO accR i sa da x' sO' sR' bf hbf hst (hdlf ▸ Nat.ne_of_gt s2)
        (hdlf ▸ Nat.le_trans (Nat.le_max_left _ _) t1) hsess
      simp only [run, hfin, List.append_nil]
      exact ⟨dR, goneR, dO, PyDict.get?_erase_self _ _, trivial⟩

/-- FD CONNECTION MODE FROM END TO END (J1939-22, handlers atomic, no timeouts): an accepted destination-specific message
    of 61 … 2^24−1 bytes takes session number i < 8 from the RTS/CTS pool; the responder (no record for (i, pair), any
    other state, own window limit ≥ 1) receives the RTS through `notify`, the originator the CTS, and then ROUNDS follow —
    originator pass, the responder receives that pass's frames (FD.TP.DT segments and, at the end, the end-of-message
    status) through `notify`, the originator receives the answers (CTS for the next window, or the end-of-message
    acknowledgement) through `notify` — under ANY schedule that finds the record due each time (`Sched`), whatever the
    two window limits and the originator's minimum packet interval (whole windows per pass, or one segment per pass).
    After at most ⌈len/60⌉ + 1 rounds: the responder has delivered the message EXACTLY ONCE — announced PGN, originator's
    address, its own address, byte-identical payload —, the originator has reported exactly one acknowledgement, neither
    side keeps a session record, and the session number has been returned to the RTS/CTS pool -/
theorem c02_rtscts_end_to_end (cfgO cfgR : Cfg) (accO accR : Nat → Bool) (sO sR : St) (t0 tR tO dp pf prio sa da tl ff : Nat) (msg : List Nat)
    (hcO : 0 < cfgO.maxCmdt) (hcO256 : cfgO.maxCmdt < 256) (hcR : 0 < cfgR.maxCmdt)
    (hl : 60 < msg.length) (hlen : msg.length < 16777216) (hprio : prio < 8)
    (hsa : sa < 256) (hda : da < 256) (hsne : sa ≠ 255) (haO : accO sa = true) (haR : accR da = true)
    (hb : (da == Const.Addr.GLOBAL || PGN.is_pdu2_format (PGN.ofFields 0 pf da)) = false)
    (hacc : (sendPgn cfgO sO t0 dp pf da prio sa msg tl ff).2 = true) (hpool : sO.rtsPool.length = 8)
    (hfree : ∀ i, sR.rcv.contains (Tp22.buffer_hash i sa da) = false)
    (htO : 0 < tO) (xs : List (Nat × Nat × Nat)) (hsched : Sched cfgO tO xs) (hxs : Tp22.num_segments msg.length + 1 ≤ xs.length) :
    ∃ i, i < 8 ∧
      let r0 := (sendPgn cfgO sO t0 dp pf da prio sa msg tl ff).1
      let a1 := rxAll cfgR accR tR sR (txFrames r0.outs)
      let a2 := rxAll cfgO accO tO r0.st (txFrames a1.2)
      let q := run cfgO cfgR accO accR i sa da xs a2.1 a1.1
      deliveries (a1.2 ++ q.2.2.1) = [(7, rtsPgn dp pf da, sa, da, msg)] ∧
      q.2.1.rcv.get? (Tp22.buffer_hash i sa da) = none ∧
      deliveries (a2.2 ++ q.2.2.2.1) =
        [(7, rtsPgn dp pf da, da, sa, (Tp22.eom_ack da sa i msg.length (Tp22.num_segments msg.length) (rtsPgn dp pf da)).data)] ∧
      q.1.snd.get? (Tp22.buffer_hash i sa da) = none ∧ q.2.2.2.2 = .rts i := by
  have hdne : da ≠ 255 := by
    intro h; simp [h] at hb
  have hn := num_segments_pos msg.length (Nat.lt_trans (by decide) hl)
  have h24 := Nat.lt_of_le_of_lt (num_segments_le msg.length) hlen
  have hp : rtsPgn dp pf da < 16777216 := Dll21.rtsPgn_lt dp pf da  -- `rtsPgn` is the same term as `Dll21.rtsPgn`
  -- the RTS reaches the responder, its CTS the originator, each under an identifier with the sender's address
  obtain ⟨midR, rfl, _, hR⟩ := rxAll_cm cfgR accR tR prio sa da hprio hsa hda haR
  obtain ⟨midA, rfl, _, hA⟩ := rxAll_cm cfgO accO tO 7 da _ (by omega) hda hsa haO
  have hs := sendPgn_sent cfgO sO t0 dp pf midA.source_address prio midR.source_address msg tl ff hl
  generalize sendPgn cfgO sO t0 dp pf midA.source_address prio midR.source_address msg tl ff = r at hs hacc ⊢
  cases hs with
  | refused => cases hacc
  | bam _ _ hb' => rw [hb] at hb'; cases hb'
  | rts i pool _ hg =>
    have hi : i < 8 := hpool ▸ poolGet_lt _ _ _ hg
    have hi16 : i < 16 := Nat.lt_trans hi (by decide)
    refine ⟨i, hi, ?_⟩
    intro r0 a1 a2 q
    have ha1 : a1 = _ := hR sR _ rfl
    rw [rts_accepted cfgR sR tR midR _ prio i _ msg.length _ _ hsne hi16 hp hlen h24 (Nat.lt_of_le_of_lt (Nat.min_le_left _ _) hcO256)
      (hfree i)] at ha1
    generalize hgdef : min cfgR.maxCmdt (min (min cfgO.maxCmdt (Tp22.num_segments msg.length)) (Tp22.num_segments msg.length)) = g at ha1
    -- the first window: the responder's limit, the limit the RTS announced, the number of segments
    have hg0 : 0 < g := hgdef ▸ Nat.lt_min.2 ⟨hcR, Nat.lt_min.2 ⟨Nat.lt_min.2 ⟨hcO, hn⟩, hn⟩⟩
    have hgn : g ≤ Tp22.num_segments msg.length := hgdef ▸ Nat.le_trans (Nat.min_le_right _ _) (Nat.min_le_right _ _)
    have hgO : g ≤ cfgO.maxCmdt :=
      hgdef ▸ Nat.le_trans (Nat.min_le_right _ _) (Nat.le_trans (Nat.min_le_left _ _) (Nat.min_le_left _ _))
    have ha2 : a2 = _ := (congrArg (fun a : St × List Out => rxAll cfgO accO tO r0.st (txFrames a.2)) ha1).trans (hA r0.st _ rfl)
    rw [cts_accepted cfgO r0.st tO midA _ i _ _ 0 g hdne hi16 hp (PyDict.get?_set_self _ _ _) hg0 (Nat.lt_of_le_of_lt hgO hcO256) hgO
      (by show 0 + g ≤ Tp22.num_segments msg.length; rwa [Nat.zero_add]) h24] at ha2
    -- the session invariant: the originator's record may send segments 0 … g−1, the responder's expects the CTS at segment g
    obtain ⟨b, hb', hbd, ob⟩ : ∃ b, a2.1.snd.get? (Tp22.buffer_hash i midR.source_address midA.source_address) = some b ∧
        b.deadline ≤ tO ∧ OInv msg i midR.source_address midA.source_address (rtsPgn dp pf midA.source_address) 0 (g - 1) b := by
      rw [ha2]
      exact ⟨_, PyDict.get?_set_self _ _ _, Nat.le_refl tO,
        { hdata := rfl, hnum := rfl, hsize := rfl, hnext := rfl, hstate := rfl, hdl := Nat.ne_of_gt htO, hsess := rfl, hsrc := rfl,
          hdest := rfl, hpgn := rfl, hwait := by show some (((0 + g - 1 : Nat) : Int)) = _; rw [Nat.zero_add] }⟩
    obtain ⟨r, hr, rb⟩ : ∃ r, a1.1.rcv.get? (Tp22.buffer_hash i midR.source_address midA.source_address) = some r ∧
        RInv msg (rtsPgn dp pf midA.source_address) 0 (g - 1 + 1) g r := by
      rw [ha1]
      exact ⟨_, PyDict.get?_set_self _ _ _,
        { hdata := rfl, hsize := rfl, hnum := rfl, hnext := rfl, hmr := rfl, hpgn := rfl,
          hb := by show some g = some (g - 1 + 1); rw [Nat.sub_add_cancel hg0] }⟩
    obtain ⟨i1, i2, i3, i4, i5⟩ := run_delivers cfgO cfgR accO accR msg i _ _ (rtsPgn dp pf _) g (Nat.lt_trans (by decide) hl) hlen hp
      hi16 hsa hda hdne hsne haO haR hg0 (Nat.lt_of_le_of_lt hgO hcO256) hgO (Tp22.num_segments msg.length) xs a2.1 a1.1 0 (g - 1) tO b r
      (Nat.le_refl _) (Nat.zero_le _) (Nat.lt_of_lt_of_le (Nat.sub_lt hg0 Nat.one_pos) hgn) hb' hr ob rb
      hbd hsched hxs
    refine ⟨?_, i2, ?_, i4, i5⟩
    · rw [deliveries_append, i1, ha1]; rfl
    · rw [deliveries_append, i3, ha2]; rfl

/-- the hypotheses of `c02_rtscts_end_to_end` / `c02_bam_end_to_end` are satisfiable: a 130-byte message 0x80 → 0x90 (and a
    130-byte PDU2 broadcast) on empty stacks, four rounds / passes 10 ms apart -/
example : (sendPgn {} {} 1000 0 208 0x90 6 0x80 (List.replicate 130 7) 0 3).2 = true ∧
    (0x90 == Const.Addr.GLOBAL || PGN.is_pdu2_format (PGN.ofFields 0 208 0x90)) = false ∧
    Sched {} 3000 [(10000, 10001, 10002), (20000, 20001, 20002), (30000, 30001, 30002), (40000, 40001, 40002)] ∧
    Tp22.num_segments (List.replicate 130 7).length + 1 ≤ 4 ∧
    (sendPgn {} {} 1000 0 254 202 6 0x80 (List.replicate 130 7) 0 3).2 = true ∧
    Due {} (1000 + ({} : Cfg).bamInterval) [11000, 21000, 31000, 41000] := by
  refine ⟨by decide +kernel, by decide, ?_, by decide +kernel, by decide +kernel, ?_⟩
  · simp [Sched]
  · simp [Due, Const.Default.bam_interval_22]

/-- the J1939-22 session key in arithmetic form -/
theorem hash22_arith (i s d : Nat) : Tp22.buffer_hash i s d = i % 16 * 65536 + s % 256 * 256 + d % 256 := by
  rw [buffer_hash_val]
  simp only [Radix.val]
  generalize i % 16 = a, s % 256 = b, d % 256 = c
  omega

/-- CONCURRENT SESSIONS NEVER SHARE A BUFFER: the key under which a J1939-22 transport session is stored and looked up
    (regenerated from the source's `_buffer_hash`) is injective on all 16 session numbers × 256 sources × 256 destinations:
    the 8 RTS/CTS and 4 BAM sessions a stack may run at once, and the sessions of different peers, are kept apart -/
theorem c02_session_key_injective (i s d i' s' d' : Nat) (hi : i < 16) (hs : s < 256) (hd : d < 256)
    (hi' : i' < 16) (hs' : s' < 256) (hd' : d' < 256)
    (h : Tp22.buffer_hash i s d = Tp22.buffer_hash i' s' d') : i = i' ∧ s = s' ∧ d = d' := by
  -- equal keys have equal digits
  obtain ⟨f1, f2, f3⟩ := buffer_hash_fields i s d
  rw [h, (buffer_hash_fields i' s' d').1, Nat.mod_eq_of_lt hd, Nat.mod_eq_of_lt hd'] at f1
  rw [h, (buffer_hash_fields i' s' d').2.1, Nat.mod_eq_of_lt hs, Nat.mod_eq_of_lt hs'] at f2
  rw [h, (buffer_hash_fields i' s' d').2.2, Nat.mod_eq_of_lt hi, Nat.mod_eq_of_lt hi'] at f3
  exact ⟨f3.symm, f2.symm, f1.symm⟩

end J1939.Props.C02
