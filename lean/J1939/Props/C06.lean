/-
  C06 — Lost frames or a vanished peer end a transfer cleanly, never with corrupt data.
-/
import J1939.Lemmas.Trace21
import J1939.Lemmas.Send21
import J1939.Lemmas.Trace22
import J1939.Lemmas.Send22
namespace J1939.Props.C06
open J1939 J1939.Gen J1939.Dll21

/-- NOTHING FROM TOO FEW FRAMES: a receive record that holds `j` packets of a message announced with `size` bytes, fed
    ANY `k` further 8-byte TP.DT frames (any content, any sequence numbers — whatever survives of the transfer) with
    j + k < ⌈size/7⌉, delivers nothing, raises nothing and still holds the record: a transfer that lost a frame can
    never complete with truncated or shifted data -/
theorem c06_no_early_delivery (size : Nat) (hsize : 0 < size) (mid : MessageId) (dest : Nat)
    (frames : List (Nat × List Nat)) (hfl : ∀ f ∈ frames, f.2.length = 8)
    (s : St) (r : Rcv) (j : Nat) (hr : s.rcv.get? (Tp21.buffer_hash mid.source_address dest) = some r)
    (hs : r.messageSize = size) (hd : r.data.length = 7 * j)
    (hmr : dest ≠ Const.Addr.GLOBAL → ∃ mr, r.maxRec = some mr)
    (hk : j + frames.length < Tp21.num_packets size) :
    deliveries (feedDt s mid dest frames).2 = [] ∧
    ∃ r', (feedDt s mid dest frames).1.rcv.get? (Tp21.buffer_hash mid.source_address dest) = some r' ∧
      r'.data.length = 7 * (j + frames.length) ∧ r'.messageSize = size := by
  induction frames generalizing s r j with
  | nil => exact ⟨rfl, r, hr, by simpa using hd, hs⟩
  | cons f fs ih =>
    obtain ⟨t, f⟩ := f
    simp only [feedDt]
    have hf8 : f.length = 8 := hfl (t, f) (List.mem_cons_self ..)
    -- j + 1 packets are fewer than all, so they do not reach the announced size: this frame leaves the record incomplete
    have hshort : 7 * (j + 1) < size := partial_too_short size (j + 1) hsize (by simp only [List.length_cons] at hk; omega)
    have hinc : r.data.length + 7 < r.messageSize := by rw [hs, hd]; omega
    obtain ⟨quiet, r', hr', hdata', hsize', _, hmr'⟩ := dt_incomplete s t mid dest f r hf8 hr hmr hinc
    -- … with one more packet in it; the other frames by induction
    obtain ⟨quiet', r'', hr'', hlen'', hsize''⟩ := ih (fun g hg => hfl g (List.mem_cons_of_mem _ hg)) (processDt s t mid dest f).st r' (j + 1) hr'
      (by rw [hsize', hs]) (by rw [hdata', List.length_append, hd, List.length_drop, hf8]; omega)
      (by intro h; rw [hmr']; exact hmr h) (by simp only [List.length_cons] at hk; omega)
    refine ⟨by rw [deliveries_append, quiet, quiet']; rfl, r'', hr'', ?_, hsize''⟩
    rw [hlen'']; simp only [List.length_cons]; omega

/-- EXACT WHEN COMPLETE: all packets, in order → the exact payload, once (the responder trace of C01) -/
theorem c06_exact_when_complete (data : List Nat) (hlen : 0 < data.length) (mid : MessageId) (dest : Nat)
    (times : List Nat) (ht : times.length = Tp21.num_packets data.length) (s : St) (r : Rcv)
    (hr : s.rcv.get? (Tp21.buffer_hash mid.source_address dest) = some r)
    (hsize : r.messageSize = data.length) (hdata : r.data = [])
    (hmr : dest ≠ Const.Addr.GLOBAL → ∃ mr, r.maxRec = some mr) :
    deliveries (feedDt s mid dest (times.zip ((List.range' 0 (Tp21.num_packets data.length)).map (chunk data)))).2
      = [(mid.priority, r.pgn, mid.source_address, dest, data)] := by
  have hn := num_packets_pos data.length hlen
  exact (feed_delivers data hlen mid dest _ 0 (by omega) hn times ht s r hr hsize (by rw [hdata]; rfl) hmr).1

/-- GIVE UP, RESPONDER SIDE: a receive record whose deadline has passed is removed by the pass; for a
    connection-mode (destination specific) session a TP.Conn_Abort with reason 3 (timeout) and the session's PGN goes
    to the originator, for a broadcast session nothing is sent -/
theorem c06_rcv_giveup (now : Nat) (r : Rcv) (hd : r.deadline ≠ 0) (hdue : r.deadline ≤ now) :
    (tickRcvOne now r).1 = none ∧
    (tickRcvOne now r).2.1 = (if r.dest != Const.Addr.GLOBAL then [.tx (Tp21.abort r.dest r.src Const.Abort21.TIMEOUT r.pgn)] else []) ∧
    Const.Abort21.TIMEOUT = 3 := by
  rw [tickRcvOne_due now hd hdue]
  exact ⟨rfl, rfl, by decide⟩

/-- GIVE UP, ORIGINATOR SIDE: a send record waiting for a CTS (or for the end-of-message ack) whose deadline has
    passed is removed and a TP.Conn_Abort (reason 3) with the session's PGN goes to the responder -/
theorem c06_snd_giveup (cfg : Cfg) (now : Nat) (b : Snd) (hs : b.state = S_WAITING_CTS) (hd : b.deadline ≠ 0) (hdue : b.deadline ≤ now) :
    (tickSndOne cfg now b).1 = none ∧
    (tickSndOne cfg now b).2.1 = [.tx (Tp21.abort b.src b.dest Const.Abort21.TIMEOUT b.pgn)] := by
  rw [tickSndOne_waiting cfg now hs hd hdue]
  exact ⟨rfl, rfl⟩

/-- BOUND: every deadline a J1939-21 handler writes while a session waits is `now + T` with T ≤ 1.25 s
    (T1, T2, T3, Th as reflected from the source) — with `c07_pass_ok` (no record with a past deadline survives a
    pass): a session that hears nothing is given up within 1.25 s plus scheduling latency -/
theorem c06_timeouts : Const.T21.T1 ≤ 1250000 ∧ Const.T21.T2 ≤ 1250000 ∧ Const.T21.T3 ≤ 1250000 ∧ Const.T21.Th ≤ 1250000 := by
  decide

/-- AFTERWARDS the pair is free again: the key is absent, so a new RTS is accepted (C09 first grant) and a new
    send_pgn is accepted (C10 refusal iff busy) -/
theorem c06_followup (now : Nat) (s : St) (k : Nat) :
    ({ s with rcv := s.rcv.erase k } : St).rcv.contains k = false ∧ ({ s with snd := s.snd.erase k } : St).snd.contains k = false :=
  ⟨PyDict.contains_erase_self _ _, PyDict.contains_erase_self _ _⟩

/-- EVERY NEW SESSION WAKES THE THREAD (J1939-21): a multi-packet send that is accepted — broadcast or connection mode —
    asks for a background pass, so the deadline it armed (BAM interval, T3 for the CTS) is known to a thread that was
    asleep: the give-up bound counts from the frame, not from the thread's next idle wake-up -/
theorem c06_send_wakes (cfg : Dll21.Cfg) (s : Dll21.St) (now dp pf ps prio sa : Nat) (data : List Nat) (hl : 8 < data.length)
    (hacc : (Dll21.sendPgn cfg s now dp pf ps prio sa data).2 = true) :
    Dll21.Out.wake ∈ (Dll21.sendPgn cfg s now dp pf ps prio sa data).1.outs := by
  have h := Dll21.sendPgn_sent cfg s now dp pf ps prio sa data
  generalize Dll21.sendPgn cfg s now dp pf ps prio sa data = r at h hacc ⊢
  cases h with
  | short h => exact absurd hl h
  | refused => cases hacc
  | opened => exact List.mem_cons_of_mem _ (List.mem_cons_self ..)

end J1939.Props.C06

namespace J1939.Props.C06
open J1939 J1939.Gen J1939.Dll22

/-- J1939-22, A SEGMENT OUT OF ORDER IS IGNORED: an FD.TP.DT frame whose segment number is not the one the record
    expects next (a segment was lost, duplicated or reordered) changes nothing and emits nothing — so after a lost segment
    the record never grows again -/
theorem c06_22_out_of_order_ignored (s : St) (now : Nat) (mid : MessageId) (dest : Nat) (f : List Nat) (r : Rcv)
    (hr : s.rcv.get? (Tp22.buffer_hash (Tp22.dt_session f) mid.source_address dest) = some r)
    (hne : r.nextPacket ≠ Tp22.dt_segment f) :
    processDt s now mid dest f = { st := s } := by
  unfold processDt
  have : (r.nextPacket != Tp22.dt_segment f) = true := by simpa using hne
  simp only [hr, this, if_true]
  split
  · rfl
  · split <;> rfl

/-- J1939-22, NEVER A TRUNCATED MESSAGE (repair of D4): the end-of-message status hands a message up only when the
    record holds EXACTLY the announced number of bytes and the announced size and segment count are the ones of the
    session; in every other case the session is aborted (reason 2), nothing is handed up, nothing is acknowledged, and
    the record is removed -/
theorem c06_22_eom_exact_or_nothing (cfg : Cfg) (s : St) (now : Nat) (mid : MessageId) (dest : Nat) (f : List Nat) (r : Rcv)
    (hlen : 12 ≤ f.length) (hc : Tp22.cm_control f = Const.CM22.EOM_STATUS)
    (hr : s.rcv.get? (Tp22.buffer_hash (Tp22.cm_session f) mid.source_address dest) = some r)
    (hsrc : mid.source_address ≠ Const.Addr.GLOBAL) :
    (deliveries (processCm cfg s now mid dest f).outs ≠ [] →
        r.data.length = r.messageSize ∧ r.messageSize = Tp22.cm_size f ∧ r.numSegments = Tp22.cm_segment f ∧
        deliveries (processCm cfg s now mid dest f).outs = [(mid.priority, r.pgn, mid.source_address, dest, r.data)]) ∧
    (¬ (r.messageSize = Tp22.cm_size f ∧ r.numSegments = Tp22.cm_segment f ∧ r.data.length = Tp22.cm_size f) →
        (processCm cfg s now mid dest f).outs = [.tx (Tp22.abort dest mid.source_address (Tp22.cm_session f) Const.Abort22.RESOURCES r.pgn)]) ∧
    (processCm cfg s now mid dest f).st.rcv.get? (Tp22.buffer_hash (Tp22.cm_session f) mid.source_address dest) = none := by
  rw [processCm_eoms_eq ⟨hlen, hc, rfl, rfl, rfl, rfl, rfl⟩ rfl hsrc hr]
  cases hok : (r.messageSize == Tp22.cm_size f && r.numSegments == Tp22.cm_segment f && r.data.length == Tp22.cm_size f) with
  | false => exact ⟨fun h => absurd rfl h, fun _ => rfl, PyDict.get?_erase_self _ _⟩
  | true =>
    simp only [Bool.and_eq_true, beq_iff_eq] at hok
    obtain ⟨⟨h1, h2⟩, h3⟩ := hok
    refine ⟨fun _ => ⟨h3.trans h1.symm, h1, h2, ?_⟩, fun hn => absurd ⟨h1, h2, h3⟩ hn, PyDict.get?_erase_self _ _⟩
    cases dest != Const.Addr.GLOBAL <;> rfl

/-- J1939-22, GIVE UP, RESPONDER SIDE: a receive record whose deadline has passed is removed by the pass; for a
    destination-specific session an abort (reason TIMEOUT = 3) with the session number and PGN goes to the originator, for
    a broadcast session nothing is sent -/
theorem c06_22_rcv_giveup (now : Nat) (r : Rcv) (hd : r.deadline ≠ 0) (hdue : r.deadline ≤ now) :
    (tickRcvOne now r).1 = none ∧
    (tickRcvOne now r).2.1 = (if r.dest != Const.Addr.GLOBAL then [.tx (Tp22.abort r.dest r.src r.session Const.Abort22.TIMEOUT r.pgn)] else []) ∧
    Const.Abort22.TIMEOUT = 3 := by
  rw [tickRcvOne_due now r hd hdue]
  exact ⟨rfl, rfl, by decide⟩

/-- J1939-22, GIVE UP, ORIGINATOR SIDE: a send record whose deadline has passed while it waits for a CTS is removed with
    an abort (reason 3) to the responder; one that waits for the end-of-message acknowledgement is removed silently; in
    both cases its session number goes back to the RTS/CTS pool -/
theorem c06_22_snd_giveup (cfg : Cfg) (now : Nat) (b : Snd) (hd : b.deadline ≠ 0) (hdue : b.deadline ≤ now) :
    (b.state = S_WAITING_CTS →
      tickSndOne cfg now b = (none, [.tx (Tp22.abort b.src b.dest b.session Const.Abort22.TIMEOUT b.pgn)], none, none, .rts b.session)) ∧
    (b.state = S_WAITING_EOM_ACK → tickSndOne cfg now b = (none, [], none, none, .rts b.session)) :=
  ⟨tickSndOne_waiting_state cfg now b hd hdue, fun hs => tickSndOne_over_state cfg now b hd hdue (.inl hs)⟩

/-- J1939-22, BOUND: every deadline a handler writes while a session waits is `now + T` with T ≤ 1.25 s, except the wait
    for the end-of-message acknowledgement (T5 = 3 s) — the longest time a silent peer can keep a session alive -/
theorem c06_22_timeouts : Const.T22.T1 ≤ 1250000 ∧ Const.T22.T2 ≤ 1250000 ∧ Const.T22.T3 ≤ 1250000 ∧ Const.T22.Th ≤ 1250000 ∧
    Const.T22.T5 = 3000000 := by
  decide

/-- EVERY NEW SESSION WAKES THE THREAD (J1939-22): an accepted transport send (more than 60 bytes) asks for a pass -/
theorem c06_22_send_wakes (cfg : Dll22.Cfg) (s : Dll22.St) (now dp pf ps prio sa : Nat) (data : List Nat) (tl ff : Nat)
    (hl : 60 < data.length) (hacc : (Dll22.sendPgn cfg s now dp pf ps prio sa data tl ff).2 = true) :
    Dll22.Out.wake ∈ (Dll22.sendPgn cfg s now dp pf ps prio sa data tl ff).1.outs := by
  have h := Dll22.sendPgn_sent cfg s now dp pf ps prio sa data tl ff hl
  generalize Dll22.sendPgn cfg s now dp pf ps prio sa data tl ff = r at h hacc ⊢
  cases h with
  | refused => cases hacc
  | bam | rts => exact List.mem_cons_of_mem _ (List.mem_cons_self ..)

end J1939.Props.C06
