/-
  C07 — No sequence of received frames can stop, stall or permanently clog the stack.   (J1939-21, then J1939-22)
  `WF` is an invariant of the session tables under EVERY frame (any identifier, any data, also when the handler
  raises), every send_pgn call and every background pass; from a `WF` state the pass never raises, never asks for a
  wake-up that is not in the future (no busy spin), and leaves no record whose deadline has passed.
-/
import J1939.Lemmas.Dll21Tick
import J1939.Lemmas.Dll22Tick
namespace J1939.Props.C07
open J1939 J1939.Gen J1939.Dll21

/-- THE PASS SURVIVES AND SLEEPS: from a well-formed state, at any time, with positive pacing intervals — no exception,
    well-formed afterwards, the requested wake-up is strictly in the future, every record that is left is due in the
    future (so a record whose timeout passed has been released or has made progress and was re-armed) -/
theorem c07_pass_ok (cfg : Cfg) (s : St) (now : Nat) (hnow : 0 < now) (hc : CfgPos cfg) (hwf : WF s) :
    (tick cfg s now).1.err = none ∧ WF (tick cfg s now).1.st ∧ now < (tick cfg s now).2 ∧
    (∀ k v, (tick cfg s now).1.st.rcv.get? k = some v → now < v.deadline) ∧
    (∀ k v, (tick cfg s now).1.st.snd.get? k = some v → now < v.deadline) := by
  have hidle : 0 < Const.Ecu.idle_wakeup := by decide
  obtain ⟨s1, nw1, o1, e1, w1, n1, f1⟩ := tickRcv_ok now s.rcv.keys s (now + Const.Ecu.idle_wakeup) [] hwf (by omega)
  obtain ⟨s2, nw2, o2, e2, l2⟩ := tickSnd_ok cfg now hc s1.snd.keys s1 nw1 o1 w1.sk
    (PyDict.get?_isSome_of_mem_keys _) w1 n1
  have hrcv : s2.rcv = s1.rcv := by have := tickSnd_rcv cfg now s1.snd.keys s1 nw1 o1; rwa [e2] at this
  have et : tick cfg s now = ({ st := s2, outs := o2, err := none }, nw2) := by
    unfold tick; simp only [e1, e2]
  rw [et]
  refine ⟨rfl, l2.wf, l2.wake, fun k v hv => ?_, fun k v hv => ?_⟩
  · obtain ⟨h0, hfut⟩ := f1 k v (hrcv ▸ hv)
    exact hfut (PyDict.mem_keys_of_get? _ k v h0)
  · exact l2.future k v hv ((PyDict.mem_keys_iff_get? _ k).mpr (l2.noNew k (by rw [hv]; rfl)))

/-- `WF` holds initially -/
theorem c07_wf_init : WF {} := ⟨List.nodup_nil, List.nodup_nil, PyDict.all_nil _, PyDict.all_nil _⟩

/-- EVERY received frame — any identifier, any payload, accepted or not, whether or not the handler raises —
    keeps the tables well-formed -/
theorem c07_wf_notify (cfg : Cfg) (s : St) (now : Nat) (acc : Nat → Bool) (canId : Nat) (data : List Nat)
    (hnow : 0 < now) (hwf : WF s) : WF (notify cfg s now acc canId data).st :=
  (notify_rx cfg s now acc canId data).wf hnow hwf

/-- send_pgn keeps the tables well-formed -/
theorem c07_wf_sendPgn (cfg : Cfg) (s : St) (now dp pf ps prio sa : Nat) (data : List Nat) (hnow : 0 < now) (hwf : WF s) :
    WF (sendPgn cfg s now dp pf ps prio sa data).1.st := by
  have h := sendPgn_sent cfg s now dp pf ps prio sa data
  generalize sendPgn cfg s now dp pf ps prio sa data = r at h ⊢
  cases h with
  | short | refused => exact hwf
  | opened _ _ b hd hs => exact wf_set_snd s _ b hwf ⟨by omega, fun h => absurd h hs⟩

/-- the side conditions on the reflected timeouts: every J1939-21 timeout a record can wait on is at most 1.25 s -/
theorem c07_timeouts_bounded :
    Const.T21.T1 ≤ 1250000 ∧ Const.T21.T2 ≤ 1250000 ∧ Const.T21.T3 ≤ 1250000 ∧ Const.T21.Th ≤ 1250000 := by decide

/-- non-vacuity: a well-formed state with a waiting and a sending record -/
example : WF (sendPgn {} (sendPgn {} {} 5 0 208 32 6 16 (List.replicate 20 1)).1.st 6 0 254 1 6 16 (List.replicate 9 2)).1.st :=
  c07_wf_sendPgn _ _ _ _ _ _ _ _ _ (by decide) (c07_wf_sendPgn _ _ _ _ _ _ _ _ _ (by decide) c07_wf_init)

end J1939.Props.C07

namespace J1939.Props.C07
open J1939 J1939.Gen J1939.Dll22

/-- J1939-22: `WF` (unique keys in the three tables; every receive record has a deadline; every send record has a
    deadline, a session number inside its pool, chunk data that covers its segment count, a stored wait-on segment and
    a next segment >= -1 while sending in a window, a next segment inside the message while broadcasting; every multi-PG
    buffer fits one frame; both pools have their size) holds initially -/
theorem c07_22_wf_init : Dll22.WF {} :=
  ⟨List.nodup_nil, List.nodup_nil, List.nodup_nil, PyDict.all_nil _, PyDict.all_nil _, PyDict.all_nil _, by decide, by decide⟩

/-- J1939-22: EVERY received frame — any identifier, any payload (FD.TP.CM with any control byte, session, size,
    segment number; FD.TP.DT; multi-PG; anything else), accepted or not, also when the handler raises — keeps `WF` -/
theorem c07_22_wf_notify (cfg : Dll22.Cfg) (s : Dll22.St) (now : Nat) (acc : Nat → Bool) (canId : Nat) (data : List Nat)
    (hnow : 0 < now) (hwf : Dll22.WF s) : Dll22.WF (Dll22.notify cfg s now acc canId data).st := by
  obtain ⟨_, h⟩ := notify_rx cfg s now acc canId data
  exact h.wf hnow hwf

/-- J1939-22: every `send_pgn` — short or long, refused or accepted, any time limit and frame format — keeps `WF` -/
theorem c07_22_wf_sendPgn (cfg : Dll22.Cfg) (s : Dll22.St) (now dp pf ps prio sa : Nat) (data : List Nat) (tl ff : Nat)
    (hc : Dll22.CfgPos cfg) (hwf : Dll22.WF s) : Dll22.WF (Dll22.sendPgn cfg s now dp pf ps prio sa data tl ff).1.st := by
  have T3 : 0 < Const.T22.T3 := by decide
  by_cases hshort : data.length ≤ 60
  · rcases sendPgn_short cfg s now dp pf ps prio sa data tl ff hshort with e | ⟨dst, cpg, hd, e⟩
    · rw [e]; exact hwf
    · rw [e]
      -- only the multi-PG buffers change: keys stay unique, every buffer still fits a frame
      exact { hwf with mkeys := mpgPlace_keys _ _ _ _ _ _ _ _ _ _ hwf.mkeys
                       mpg := mpgPlace_fill _ _ _ _ _ cpg (hd ▸ hshort) _ _ _ _ hwf.mpg }
  · -- longer: refused, or a record with a number of its pool
    replace hshort : 60 < data.length := by omega
    have hcl := chunks60_len data
    have hseg : 0 < Tp22.num_segments data.length := by show 0 < data.length / 60 + _; omega
    have nb : ¬ KBam S_WAITING_CTS := fun h => kinds_disjoint _ h krts_waiting
    have h := sendPgn_sent cfg s now dp pf ps prio sa data tl ff hshort
    generalize sendPgn cfg s now dp pf ps prio sa data tl ff = r at h ⊢
    cases h with
    | refused => exact hwf
    | bam i pool _ hg =>
      have hs4 : i < 4 := hwf.bp ▸ poolGet_lt _ _ _ hg
      exact wf_set_snd { s with bamPool := pool } _ _
        { hwf with bp := (poolGet_some _ _ _ hg).2.2 ▸ hwf.bp }
        { dl := by show now + cfg.bamInterval ≠ 0; have := hc.1; omega
          sess := by show i < 8; omega
          bamSess := fun _ => hs4
          data1 := hcl.1
          segs := hcl.2
          rts := fun h => absurd h (show S_SENDING_BAM ≠ S_SENDING_RTS_CTS by decide)
          bam := fun _ => ⟨Int.le_refl 0, by show (0 : Int) < (Tp22.num_segments data.length : Int); omega⟩ }
    | rts i pool _ hg =>
      exact wf_set_snd { s with rtsPool := pool } _ _
        { hwf with rp := (poolGet_some _ _ _ hg).2.2 ▸ hwf.rp }
        { dl := by show now + Const.T22.T3 ≠ 0; omega
          sess := hwf.rp ▸ poolGet_lt _ _ _ hg
          bamSess := fun h => absurd h nb
          data1 := hcl.1
          segs := hcl.2
          rts := fun h => absurd h (show S_WAITING_CTS ≠ S_SENDING_RTS_CTS by decide)
          bam := fun h => absurd (.inl h) nb }

/-- J1939-22, THE PASS SURVIVES AND SLEEPS: from a well-formed state, at any time — no exception (no KeyError, no
    IndexError from negative or too large segment numbers a hostile CTS stored, from the FD length table or from the
    session pools), `WF` afterwards, and the requested wake-up is strictly in the future (no busy spin) -/
theorem c07_22_pass_ok (cfg : Dll22.Cfg) (s : Dll22.St) (now : Nat) (hc : Dll22.CfgPos cfg) (hwf : Dll22.WF s) :
    (Dll22.tick cfg s now).1.err = none ∧ Dll22.WF (Dll22.tick cfg s now).1.st ∧ now < (Dll22.tick cfg s now).2 := by
  have hidle : 0 < Const.Ecu.idle_wakeup := by decide
  obtain ⟨s1, nw1, o1, e1, w1, n1⟩ := tickRcv_ok now s.rcv.keys s (now + Const.Ecu.idle_wakeup) [] hwf (by omega)
  obtain ⟨s2, nw2, o2, e2, w2, n2, _⟩ := tickMpg_ok now s1.mpg.keys s1 nw1 o1 w1.mkeys
    (PyDict.get?_isSome_of_mem_keys _) w1 n1
  obtain ⟨s3, nw3, o3, e3, w3, n3, _⟩ := tickSnd_ok cfg now hc s2.snd.keys s2 nw2 o2 w2.sk
    (PyDict.get?_isSome_of_mem_keys _) w2 n2
  unfold tick
  simp only [e1, e2, e3]
  exact ⟨trivial, w3, n3⟩

inductive Ev22 where
  | send (now dp pf ps prio sa : Nat) (data : List Nat) (tl ff : Nat)
  | rx (now canId : Nat) (data : List Nat)
  | pass (now : Nat)

def Ev22.now : Ev22 → Nat
  | .send n .. => n | .rx n .. => n | .pass n => n

def step22 (cfg : Dll22.Cfg) (acc : Nat → Bool) (s : Dll22.St) : Ev22 → Dll22.St
  | .send now dp pf ps prio sa data tl ff => (Dll22.sendPgn cfg s now dp pf ps prio sa data tl ff).1.st
  | .rx now canId data => (Dll22.notify cfg s now acc canId data).st
  | .pass now => (Dll22.tick cfg s now).1.st

/-- J1939-22, ANY HISTORY: sends, received frames (arbitrary) and background passes in any order at any positive
    times keep `WF`; so no pass of any history raises and none spins -/
theorem c07_22_history_wf (cfg : Dll22.Cfg) (acc : Nat → Bool) (hc : Dll22.CfgPos cfg) (evs : List Ev22) (s : Dll22.St)
    (hwf : Dll22.WF s) (hpos : ∀ e ∈ evs, 0 < e.now) : Dll22.WF (evs.foldl (step22 cfg acc) s) := by
  refine List.foldlRecOn evs _ hwf fun s hwf e he => ?_
  cases e with
  | send now dp pf ps prio sa data tl ff => exact c07_22_wf_sendPgn cfg s now dp pf ps prio sa data tl ff hc hwf
  | rx now canId data => exact c07_22_wf_notify cfg s now acc canId data (hpos _ he) hwf
  | pass now => exact (c07_22_pass_ok cfg s now hc hwf).2.1

theorem c07_22_never_raises_never_spins (cfg : Dll22.Cfg) (acc : Nat → Bool) (hc : Dll22.CfgPos cfg) (evs : List Ev22)
    (hpos : ∀ e ∈ evs, 0 < e.now) (now : Nat) :
    (Dll22.tick cfg (evs.foldl (step22 cfg acc) {}) now).1.err = none ∧ now < (Dll22.tick cfg (evs.foldl (step22 cfg acc) {}) now).2 :=
  let h := c07_22_pass_ok cfg _ now hc (c07_22_history_wf cfg acc hc evs {} c07_22_wf_init hpos)
  ⟨h.1, h.2.2⟩

end J1939.Props.C07
