/-
  C01 — J1939-21 transport delivers every accepted message intact, exactly once.
  Session-level theorems about Model/Dll21.lean (all payload lengths and contents, all windows, all times): what the
  originator puts on the bus for an accepted message, and what the responder makes of it.  The N-party, all-schedules
  composition is exercised by the lock-step correspondence and the network oracle (see MANIFEST level note).
-/
import J1939.Lemmas.Trace21
import J1939.Lemmas.Bam21
import J1939.Lemmas.Rts21
import J1939.Lemmas.Send21
namespace J1939.Props.C01
open J1939 J1939.Gen J1939.Dll21 J1939.Lemmas

/-- SHORT MESSAGES (0..8 bytes): one frame, identifier composed of priority, PGN and source, the payload unchanged;
    always accepted, no session state -/
theorem c01_short_frame (cfg : Cfg) (s : St) (now dp pf ps prio sa : Nat) (data : List Nat) (hl : data.length ≤ 8) :
    (sendPgn cfg s now dp pf ps prio sa data) =
      ({ st := s, outs := [.tx { id := MessageId.can_id (MessageId.ofFields prio (PGN.value (PGN.ofFields dp pf ps)) sa),
                                 ext := true, data := data }] }, true) := by
  unfold sendPgn; simp [hl]

/-- … and a received single frame of an ordinary PGN is handed up exactly once with priority, PGN, source and the
    same bytes: PDU2 → to everybody (destination 255), PDU1 → with its destination (if a local listener/CA accepts it) -/
theorem c01_single_frame_rx (cfg : Cfg) (s : St) (now : Nat) (acc : Nat → Bool) (canId : Nat) (data : List Nat) :
    let mid := MessageId.ofCanId canId
    let pgn := PGN.from_message_id mid
    (PGN.is_pdu2_format pgn = true →
        notify cfg s now acc canId data = { st := s, outs := [.notify mid.priority (PGN.value pgn) mid.source_address 255 data] }) ∧
    (PGN.is_pdu2_format pgn = false → (pgn.pdu_specific = 255 ∨ acc pgn.pdu_specific = true) →
      Tp21.notify_pgn_value pgn ≠ Const.PGN.ADDRESSCLAIM → Tp21.notify_pgn_value pgn ≠ Const.PGN.REQUEST →
      Tp21.notify_pgn_value pgn ≠ Const.PGN.TP_CM → Tp21.notify_pgn_value pgn ≠ Const.PGN.DATATRANSFER →
        notify cfg s now acc canId data =
          { st := s, outs := [.notify mid.priority (Tp21.notify_pgn_value pgn) mid.source_address pgn.pdu_specific data] }) := by
  refine ⟨fun h => ?_, fun h hacc h1 h2 h3 h4 => ?_⟩
  · simp [notify, h]
  · simp only [notify, h, Bool.false_eq_true, if_false, accept_guard acc _ hacc, beq_iff_eq, h1, h2, h3, h4]

/-- SEGMENTATION ROUND TRIP: for every message (any length, any content) the first `len` bytes of the concatenated
    7-byte payloads of packets 1 … ⌈len/7⌉ are the message; the protocol's 255-packet limit is exactly 1785 bytes -/
theorem c01_segments_roundtrip (data : List Nat) :
    (payloads data (Tp21.num_packets data.length)).take data.length = data ∧
    (Tp21.num_packets data.length ≤ 255 ↔ data.length ≤ 1785) :=
  ⟨payloads_take data _ (num_packets_spec data.length).1, num_packets_le_255 data.length⟩

/-- ORIGINATOR, connection mode: the data frames a window emits are the TP.DT frames of consecutive packets of the
    accepted payload, sequence numbers in order -/
theorem c01_originator_frames (cfg : Cfg) (now fuel : Nat) (b : Snd) (w : Int)
    (hw : b.waitOn = some w) (hle : (b.next : Int) ≤ w) (hnp : b.next ≤ b.numPackages) (hfuel : b.numPackages - b.next < fuel)
    (r1 : Snd) (ro : List Out) (re : Option PyErr) (hr : sendWindow cfg now fuel b [] = (r1, ro, re)) :
    ro = (List.range' b.next (r1.next - b.next)).map (fun p => Out.tx (Tp21.dt b.src b.dest (chunk b.data p))) ∧
    r1.data = b.data := by
  obtain ⟨n, r, e, -, hwin⟩ := sendWindow_win cfg now fuel b [] w hw (.inl hfuel)
  rw [e] at hr
  cases hr
  -- however the loop stops, the record differs from `b` in `next := n`, state and deadline only
  cases hwin <;> exact ⟨rfl, rfl⟩

/-- ORIGINATOR, what is announced: an accepted message of more than 8 bytes to a specific address starts with one RTS
    carrying the exact size, ⌈len/7⌉ packets, the window limit min(own maximum, packets) and the PGN with PS = 0, and the
    record keeps the payload unchanged; to the global address / a PDU2 PGN it starts with one BAM -/
theorem c01_originator_announce (cfg : Cfg) (s : St) (now dp pf ps prio sa : Nat) (data : List Nat) (hl : 8 < data.length)
    (hacc : (sendPgn cfg s now dp pf ps prio sa data).2 = true) :
    let n := Tp21.num_packets data.length
    let pgn0 := PGN.value { PGN.ofFields dp pf ps with pdu_specific := 0 }
    ((ps == Const.Addr.GLOBAL || PGN.is_pdu2_format (PGN.ofFields 0 pf ps)) = false →
      (sendPgn cfg s now dp pf ps prio sa data).1.outs = [.tx (Tp21.rts sa ps prio pgn0 data.length n (min cfg.maxCmdt n)), .wake] ∧
      ∃ b, (sendPgn cfg s now dp pf ps prio sa data).1.st.snd.get? (Tp21.buffer_hash sa ps) = some b ∧ b.data = data ∧
        b.numPackages = n ∧ b.next = 0 ∧ b.state = S_WAITING_CTS ∧ b.src = sa ∧ b.dest = ps) ∧
    ((ps == Const.Addr.GLOBAL || PGN.is_pdu2_format (PGN.ofFields 0 pf ps)) = true →
      (sendPgn cfg s now dp pf ps prio sa data).1.outs =
        [.tx (Tp21.bam sa prio (if PGN.is_pdu1_format (PGN.ofFields dp pf ps) then pgn0 else PGN.value (PGN.ofFields dp pf ps)) data.length n), .wake] ∧
      ∃ b, (sendPgn cfg s now dp pf ps prio sa data).1.st.snd.get? (Tp21.buffer_hash sa 255) = some b ∧ b.data = data ∧
        b.numPackages = n ∧ b.next = 0 ∧ b.state = S_SENDING_BM ∧ b.src = sa ∧ b.dest = 255) := by
  refine ⟨fun hb => ?_, fun hb => ?_⟩
  · rw [sendPgn_rts cfg s now dp pf ps prio sa data hl hb hacc]
    exact ⟨rfl, _, PyDict.get?_set_self _ _ _, rfl, rfl, rfl, rfl, rfl, rfl⟩
  · rw [sendPgn_bam cfg s now dp pf ps prio sa data hl hb hacc]
    exact ⟨rfl, _, PyDict.get?_set_self _ _ _, rfl, rfl, rfl, rfl, rfl, rfl⟩

/-- RESPONDER: an RTS on a free pair announcing the size of `data`, followed by the TP.DT frames of `data` in order
    (at arbitrary times; the CTS answers are C09's), yields exactly ONE delivery — priority of the DT frames' identifier,
    the PGN announced in the RTS, the originator's address, the destination, and the byte-identical payload — at the last
    packet, and the pair is free again afterwards -/
theorem c01_responder_delivers (cfg : Cfg) (s : St) (now : Nat) (mid : MessageId) (dest : Nat) (rts : List Nat)
    (data : List Nat) (hlen : 0 < data.length)
    (hl : 8 ≤ rts.length) (hc : Tp21.cm_control rts = Const.CM21.RTS) (hsz : Tp21.rts_size rts = data.length)
    (hfree : s.rcv.contains (Tp21.buffer_hash mid.source_address dest) = false)
    (times : List Nat) (ht : times.length = Tp21.num_packets data.length) :
    let s1 := (processCm cfg s now mid dest rts).st
    let frames := (List.range' 0 (Tp21.num_packets data.length)).map (chunk data)
    deliveries (feedDt s1 mid dest (times.zip frames)).2 = [(mid.priority, Tp21.cm_pgn rts, mid.source_address, dest, data)] ∧
    (feedDt s1 mid dest (times.zip frames)).1.rcv.get? (Tp21.buffer_hash mid.source_address dest) = none := by
  have hn := num_packets_pos data.length hlen
  rw [processCm_rts hl hc hfree]
  intro s1 frames
  exact feed_delivers data hlen mid dest _ 0 (Nat.zero_add _) hn times ht s1 _ (PyDict.get?_set_self _ _ _) hsz rfl (fun _ => ⟨_, rfl⟩)

/-- THE ACKNOWLEDGEMENT is the only other thing reported: an end-of-message ack for a running send session is handed to
    the originator's listeners once (with the transferred PGN), and marks the session finished -/
theorem c01_ack_reported (cfg : Cfg) (s : St) (now : Nat) (mid : MessageId) (dest : Nat) (data : List Nat) (b : Snd)
    (hl : 8 ≤ data.length) (hc : Tp21.cm_control data = Const.CM21.EOM_ACK)
    (hb : s.snd.get? (Tp21.buffer_hash dest mid.source_address) = some b) :
    (processCm cfg s now mid dest data).outs = [.notify mid.priority (Tp21.cm_pgn data) mid.source_address dest data, .wake] ∧
    (processCm cfg s now mid dest data).st.snd.get? (Tp21.buffer_hash dest mid.source_address) =
      some { b with state := S_FINISHED, deadline := now } := by
  rw [processCm_eom_ack hl hc hb]
  exact ⟨rfl, PyDict.get?_set_self _ _ _⟩

/-- DISPATCH of the stack's own TP frames: the identifier the builders compose (priority, PF 236/235, destination, source)
    is parsed back to exactly those fields, and `notify` hands the frame to `_process_tp_cm` / `_process_tp_dt` with that
    destination whenever the destination is global or locally accepted — the tie between the frames on the wire and the
    handler-level statements of this file -/
theorem c01_tp_dispatch (cfg : Cfg) (s : St) (now : Nat) (acc : Nat → Bool) (prio da sa : Nat) (data : List Nat)
    (hp : prio < 8) (hda : da < 256) (hsa : sa < 256) (hacc : da = 255 ∨ acc da = true) :
    let idCm := MessageId.can_id (MessageId.ofFields prio (PGN.value (PGN.ofFields 0 236 da)) sa)
    let idDt := MessageId.can_id (MessageId.ofFields prio (PGN.value (PGN.ofFields 0 235 da)) sa)
    (MessageId.ofCanId idCm).source_address = sa ∧ (MessageId.ofCanId idCm).priority = prio ∧
    (MessageId.ofCanId idDt).source_address = sa ∧ (MessageId.ofCanId idDt).priority = prio ∧
    notify cfg s now acc idCm data = processCm cfg s now (MessageId.ofCanId idCm) da data ∧
    notify cfg s now acc idDt data = processDt s now (MessageId.ofCanId idDt) da data := by
  obtain ⟨a1, a2, a3⟩ := tp_id_parse prio 236 da sa hp (by omega) hda hsa
  obtain ⟨b1, b2, b3⟩ := tp_id_parse prio 235 da sa hp (by omega) hda hsa
  have hacc' := accept_guard acc da hacc
  refine ⟨a1, a2, b1, b2, ?_, ?_⟩
  · simp only [notify, a3, hacc', npv_pdu1 236 da (by decide) hda]; rfl
  · simp only [notify, b3, hacc', npv_pdu1 235 da (by decide) hda]; rfl

/-- ORIGINATOR, broadcast: `m` due background passes over a broadcast record with `m` packets left put exactly the
    TP.DT frames of those packets on the bus — one per pass, in order, byte-identical chunks of the accepted payload —
    and the last pass deletes the record (`Due`: the first pass at/after the record's deadline, each next one at/after
    the previous pass plus the configured interval) -/
theorem c01_bam_originator_frames (cfg : Cfg) (m : Nat) (times : List Nat) (b : Snd) (ht : times.length = m) (hm : 0 < m)
    (hs : b.state = S_SENDING_BM) (hn : b.next + m = b.numPackages) (hdue : Due cfg b.deadline times) :
    bamRun cfg times b = ((List.range' b.next m).map (fun k => Out.tx (Tp21.dt b.src b.dest (chunk b.data k))), none) := by
  induction m generalizing times b with
  | zero => omega
  | succ m ih =>
    obtain ⟨t, times, rfl⟩ := List.exists_cons_of_length_eq_add_one ht
    obtain ⟨hd0, hdt, hrest⟩ := hdue
    rw [bamRun, tickSndOne_bm cfg t hs hd0 hdt, List.range'_succ, List.map_cons]
    by_cases hlast : m = 0
    · subst hlast
      rw [if_neg (by omega)]
      rfl
    · rw [if_pos (by omega)]
      simp only
      rw [ih times { b with next := b.next + 1, deadline := t + cfg.bamInterval } (Nat.succ.inj ht) (by omega) hs (by simp only; omega) hrest]
      rfl

theorem decode_bam (sa prio pgnv size n : Nat) (hs : size < 65536) (hp : pgnv < 16777216) :
    let d := (Tp21.bam sa prio pgnv size n).data
    Tp21.cm_control d = Const.CM21.BAM ∧ Tp21.bam_size d = size ∧ Tp21.bam_packets d = n ∧ Tp21.cm_pgn d = pgnv ∧ d.length = 8 := by
  rw [bam_data]
  exact ⟨rfl, cm_size_ref 32 size _ hs, rfl, cm_pgn_ref 32 _ _ n 255 pgnv hp, rfl⟩

theorem rx_bam (cfg : Cfg) (s : St) (now : Nat) (acc : Nat → Bool) (sa prio pgnv size n : Nat)
    (hsa : sa < 256) (hp : prio < 8) (hs : size < 65536) (hpg : pgnv < 16777216) :
    let r := notify cfg s now acc (Tp21.bam sa prio pgnv size n).id (Tp21.bam sa prio pgnv size n).data
    deliveries r.outs = [] ∧ r.err = none ∧
    ∃ rc, r.st.rcv.get? (Tp21.buffer_hash sa 255) = some rc ∧ rc.messageSize = size ∧ rc.data = [] ∧ rc.pgn = pgnv := by
  obtain ⟨h1, -, -, -, h5, -⟩ := c01_tp_dispatch cfg s now acc prio 255 sa (Tp21.bam sa prio pgnv size n).data hp (by omega) hsa (.inl rfl)
  obtain ⟨d1, d2, -, d4, d5⟩ := decode_bam sa prio pgnv size n hs hpg
  rw [show (Tp21.bam sa prio pgnv size n).id = MessageId.can_id (MessageId.ofFields prio (PGN.value (PGN.ofFields 0 236 255)) sa) from rfl, h5]
  rw [processCm_bam (Nat.le_of_eq d5.symm) d1, d2, d4, h1]
  cases s.rcv.contains (Tp21.buffer_hash sa 255) <;> exact ⟨rfl, rfl, _, PyDict.get?_set_self _ _ _, rfl, rfl, rfl⟩

theorem rxAll_dt {α : Type} (cfg : Cfg) (acc : Nat → Bool) (sa : Nat) (hsa : sa < 256) (g : α → List Nat) (s : St)
    (ts : List Nat) (l : List α) :
    rxAll cfg acc s (ts.zip (l.map (fun k => Tp21.dt sa 255 (g k)))) =
      feedDt s (MessageId.ofCanId (MessageId.can_id (MessageId.ofFields 7 (PGN.value (PGN.ofFields 0 235 255)) sa))) 255
        (ts.zip (l.map g)) := by
  induction ts generalizing l s with
  | nil => rfl
  | cons t ts ih =>
    cases l with
    | nil => rfl
    | cons a l =>
      have h := (c01_tp_dispatch cfg s t acc 7 255 sa (g a) (by omega) (by omega) hsa (.inl rfl)).2.2.2.2.2
      simp only [List.map_cons, List.zip_cons_cons, rxAll, feedDt]
      rw [← h, ← ih]
      rfl

/-- BAM END TO END (J1939-21): an accepted broadcast of 9 … 1785 bytes, whose record is served by `n = ⌈len/7⌉` due
    background passes (whatever else the originator does in between), puts exactly n + 1 frames on the bus — the
    announcement and the n TP.DT frames in order — and the record is gone afterwards; ANY node that receives these
    frames (whatever its state before, whatever its acceptance filter, at whatever times, under its own configuration)
    delivers the message exactly once: PGN as announced, the originator's address, destination 255, the byte-identical
    payload — and keeps no receive record -/
theorem c01_bam_end_to_end (cfgO cfgR : Cfg) (sO sR : St) (acc : Nat → Bool) (t0 dp pf ps prio sa : Nat) (data : List Nat)
    (hl : 8 < data.length) (hmax : data.length ≤ 1785) (hsa : sa < 256) (hp : prio < 8)
    (hb : (ps == Const.Addr.GLOBAL || PGN.is_pdu2_format (PGN.ofFields 0 pf ps)) = true)
    (hacc : (sendPgn cfgO sO t0 dp pf ps prio sa data).2 = true)
    (passes : List Nat) (hpl : passes.length = Tp21.num_packets data.length)
    (hdue : Due cfgO (t0 + cfgO.bamInterval) passes)
    (rxTimes : List Nat) (hrl : rxTimes.length = Tp21.num_packets data.length + 1) :
    let r0 := (sendPgn cfgO sO t0 dp pf ps prio sa data).1
    let b := bamRec cfgO t0 dp pf ps prio sa data
    let run := bamRun cfgO passes b
    let wire := txFrames r0.outs ++ txFrames run.1
    r0.st.snd.get? (Tp21.buffer_hash sa 255) = some b ∧ run.2 = none ∧
    wire.length = Tp21.num_packets data.length + 1 ∧
    deliveries (rxAll cfgR acc sR (rxTimes.zip wire)).2 = [(7, bamPgn dp pf ps, sa, 255, data)] ∧
    (rxAll cfgR acc sR (rxTimes.zip wire)).1.rcv.get? (Tp21.buffer_hash sa 255) = none := by
  intro r0 b run wire
  have hn := num_packets_pos data.length (by omega)
  have hr0 : r0 = _ := sendPgn_bam cfgO sO t0 dp pf ps prio sa data hl hb hacc
  have hrun : run = _ := c01_bam_originator_frames cfgO (Tp21.num_packets data.length) passes b hpl hn rfl (Nat.zero_add _) hdue
  have hwire : wire = Tp21.bam sa prio (bamPgn dp pf ps) data.length (Tp21.num_packets data.length) ::
      (List.range' 0 (Tp21.num_packets data.length)).map (fun k => Tp21.dt sa 255 (chunk data k)) := by
    simp only [wire, hr0, hrun]
    rw [txFrames_map]
    rfl
  obtain ⟨t, ts, rfl⟩ := List.exists_cons_of_length_eq_add_one hrl
  refine ⟨by rw [hr0]; exact PyDict.get?_set_self _ _ _, by rw [hrun], by rw [hwire]; simp, ?_⟩
  -- the receiver: the announcement opens a record, the TP.DT frames fill it
  obtain ⟨quiet, -, rc, hrc, hsize, hempty, hpgn⟩ := rx_bam cfgR sR t acc sa prio (bamPgn dp pf ps) data.length (Tp21.num_packets data.length)
    hsa hp (by omega) (bamPgn_lt dp pf ps)
  -- `midDt`: the TP.DT frames arrive under an identifier with source `sa` and priority 7
  obtain ⟨hsrc, hprio, -⟩ := tp_id_parse 7 235 255 sa (by omega) (by omega) (by omega) hsa
  have := feed_delivers data (by omega) (MessageId.ofCanId (MessageId.can_id (MessageId.ofFields 7 (PGN.value (PGN.ofFields 0 235 255)) sa)))
    255 (Tp21.num_packets data.length) 0 (Nat.zero_add _) hn ts (Nat.succ.inj hrl) _ rc
    (by rw [hsrc]; exact hrc) hsize (by rw [hempty]; rfl) (fun h => absurd rfl h)
  rw [hsrc, hprio, hpgn] at this
  rw [hwire]
  simp only [List.zip_cons_cons, rxAll]
  rw [rxAll_dt cfgR acc sa hsa (chunk data), deliveries_append, quiet]
  exact this

/-- the hypotheses of `c01_bam_end_to_end` are satisfiable: a 20-byte PDU2 message on an empty stack, three passes -/
example : (sendPgn {} {} 1000 0 254 202 6 128 (List.range 20)).2 = true ∧
    (202 == Const.Addr.GLOBAL || PGN.is_pdu2_format (PGN.ofFields 0 254 202)) = true ∧
    Due {} (1000 + ({} : Cfg).bamInterval) [51000, 101000, 160000] ∧ Tp21.num_packets (List.range 20).length = 3 := by
  refine ⟨by decide, by decide, ?_, by decide⟩
  simp [Due, Const.Default.bam_interval_21]

/-- ONE ROUND of a running session (originator: packets 0 … j−1 out, may send up to packet `wn`; responder: holds
    exactly those j packets, its window ends at `wn`): the round either keeps this invariant with MORE packets
    transferred and nothing delivered, or completes the transfer — one delivery of the byte-identical message, the
    responder's record gone, one acknowledgement reported, the originator's record finished and due -/
theorem c01_rtscts_round (cfgO : Cfg) (midO midR : MessageId) (data : List Nat) (pgn mr : Nat) (hlen : 0 < data.length)
    (hmax : data.length ≤ 1785) (hp : pgn < 16777216) (hd : midR.source_address ≠ Const.Addr.GLOBAL) (hmr : 0 < mr)
    (x : Nat × Nat × Nat) (sO sR : St) (j wn : Nat) (b : Snd) (r : Rcv)
    (hj : j ≤ wn) (hwn : wn < Tp21.num_packets data.length)
    (hb : sO.snd.get? (Tp21.buffer_hash midO.source_address midR.source_address) = some b)
    (hr : sR.rcv.get? (Tp21.buffer_hash midO.source_address midR.source_address) = some r)
    (ob : OInv data j wn b) (rb : RInv data pgn j (wn + 1) mr r)
    (hdue : b.deadline ≤ x.1) (ht : 0 < x.1) (htO : 0 < x.2.2) :
    ∃ sO' sR' oR oO, round cfgO midO midR x sO sR = some (sO', sR', oR, oO) ∧
      ((∃ j' wn' b' r', j < j' ∧ j' ≤ wn' ∧ wn' < Tp21.num_packets data.length ∧
          sO'.snd.get? (Tp21.buffer_hash midO.source_address midR.source_address) = some b' ∧
          sR'.rcv.get? (Tp21.buffer_hash midO.source_address midR.source_address) = some r' ∧
          OInv data j' wn' b' ∧ RInv data pgn j' (wn' + 1) mr r' ∧
          b'.deadline ≤ max x.2.2 (x.1 + cfgO.cmdtInterval.getD 0) ∧ deliveries oR = [] ∧ deliveries oO = []) ∨
       (deliveries oR = [(midO.priority, pgn, midO.source_address, midR.source_address, data)] ∧
        sR'.rcv.get? (Tp21.buffer_hash midO.source_address midR.source_address) = none ∧
        deliveries oO = [(midR.priority, pgn, midR.source_address, midO.source_address,
          (Tp21.eom_ack midR.source_address midO.source_address data.length (Tp21.num_packets data.length) pgn).data)] ∧
        ∃ bf, sO'.snd.get? (Tp21.buffer_hash midO.source_address midR.source_address) = some bf ∧
          bf.state = S_FINISHED ∧ bf.deadline = x.2.2)) :=
  round_step cfgO midO midR data pgn mr hlen hp hd hmr x sO sR j wn b r hj hwn hb hr ob rb hdue ht htO

/-- RTS/CTS FROM END TO END (J1939-21, handlers atomic, no timeouts): an accepted destination-specific message of
    9 … 1785 bytes; the responder (pair free, any other state, its own window limit ≥ 1) handles the RTS, the originator
    handles the CTS, and then ROUNDS follow — originator pass, the responder handles that pass's TP.DT frames in order,
    the originator handles the answers — under ANY schedule that finds the record due each time (`Sched`), whatever the
    two window limits and the originator's minimum packet interval (whole windows per pass or one packet per pass).
    After at most ⌈len/7⌉ + 1 rounds: the responder has delivered the message EXACTLY ONCE — announced PGN, originator's
    address, its own address, byte-identical payload —, the originator has reported exactly one EndOfMsgACK, and
    neither side keeps a session record.  (`midC`/`midO`/`midR`: the parsed identifiers of the originator's TP.CM, its
    TP.DT and the responder's frames; `c01_tp_dispatch` ties them to the frames' identifiers and to `notify`.) -/
theorem c01_rtscts_end_to_end (cfgO cfgR : Cfg) (sO sR : St) (midC midO midR : MessageId) (t0 tR tO dp pf prio : Nat) (data : List Nat)
    (hl : 8 < data.length) (hmax : data.length ≤ 1785) (hcO : 0 < cfgO.maxCmdt) (hcR : 0 < cfgR.maxCmdt)
    (hsrc : midC.source_address = midO.source_address)
    (hb : (midR.source_address == Const.Addr.GLOBAL || PGN.is_pdu2_format (PGN.ofFields 0 pf midR.source_address)) = false)
    (hacc : (sendPgn cfgO sO t0 dp pf midR.source_address prio midO.source_address data).2 = true)
    (hfree : sR.rcv.contains (Tp21.buffer_hash midO.source_address midR.source_address) = false)
    (htO : 0 < tO) (xs : List (Nat × Nat × Nat)) (hsched : Sched cfgO tO xs)
    (hxs : Tp21.num_packets data.length + 1 ≤ xs.length) :
    let r0 := (sendPgn cfgO sO t0 dp pf midR.source_address prio midO.source_address data).1
    let a1 := answer cfgR tR midC midR.source_address sR (txFrames r0.outs)
    let a2 := answer cfgO tO midR midO.source_address r0.st (txFrames a1.2)
    let q := run cfgO midO midR xs a2.1 a1.1
    deliveries (a1.2 ++ q.2.2.1) =
      [(midO.priority, rtsPgn dp pf midR.source_address, midO.source_address, midR.source_address, data)] ∧
    q.2.1.rcv.get? (Tp21.buffer_hash midO.source_address midR.source_address) = none ∧
    deliveries (a2.2 ++ q.2.2.2) =
      [(midR.priority, rtsPgn dp pf midR.source_address, midR.source_address, midO.source_address,
        (Tp21.eom_ack midR.source_address midO.source_address data.length (Tp21.num_packets data.length)
          (rtsPgn dp pf midR.source_address)).data)] ∧
    q.1.snd.get? (Tp21.buffer_hash midO.source_address midR.source_address) = none := by
  intro r0 a1 a2 q
  have hd : midR.source_address ≠ Const.Addr.GLOBAL := fun h => by simp [h] at hb
  have hn := (num_packets_spec data.length).1
  have hn255 := (num_packets_le_255 data.length).2 hmax
  -- the RTS goes out, the responder grants a first window of `g` packets, the originator accepts the grant
  have hr0 : r0 = _ := sendPgn_rts cfgO sO t0 dp pf midR.source_address prio midO.source_address data hl hb hacc
  have ha1 : a1 = answer cfgR tR midC midR.source_address sR (txFrames r0.outs) := rfl
  rw [hr0, txFrames_tx_wake, answer_one, ← hsrc,
    rts_accepted cfgR sR tR midC midR.source_address prio (rtsPgn dp pf midR.source_address) data.length
      (Tp21.num_packets data.length) (min cfgO.maxCmdt (Tp21.num_packets data.length)) (by omega) (by omega) (by omega)
      (rtsPgn_lt dp pf midR.source_address) (hsrc ▸ hfree), hsrc] at ha1
  generalize hg : min cfgR.maxCmdt (min (min cfgO.maxCmdt (Tp21.num_packets data.length)) (Tp21.num_packets data.length)) = g at ha1
  obtain ⟨hg1, hgn⟩ : 0 < g ∧ g ≤ Tp21.num_packets data.length := by omega
  clear hg
  have hcts : processCm cfgO r0.st tO midR midO.source_address
      (Tp21.cts midR.source_address midO.source_address g 1 (rtsPgn dp pf midR.source_address)).data = _ :=
    cts_accepted cfgO r0.st tO midR midO.source_address (rtsRec t0 dp pf midR.source_address prio midO.source_address data) g
      (rtsPgn dp pf midR.source_address) (by rw [hr0]; exact PyDict.get?_set_self _ _ _) (by omega)
      (by show 0 + g ≤ Tp21.num_packets data.length; omega)
  have ha2 : a2 = answer cfgO tO midR midO.source_address r0.st (txFrames a1.2) := rfl
  rw [ha1, txFrames_tx_wake, answer_one, hcts] at ha2
  -- the session invariant holds, and the rounds do the rest
  obtain ⟨r, hr, rb⟩ : ∃ r, a1.1.rcv.get? (Tp21.buffer_hash midO.source_address midR.source_address) = some r ∧
      RInv data (rtsPgn dp pf midR.source_address) 0 (g - 1 + 1) g r := by
    rw [ha1]
    exact ⟨_, PyDict.get?_set_self _ _ _,
      { hdata := rfl, hsize := rfl, hnum := rfl, hnext := by show g = g - 1 + 1; omega, hmr := rfl, hpgn := rfl }⟩
  obtain ⟨b, hb', ob, hbd⟩ : ∃ b, a2.1.snd.get? (Tp21.buffer_hash midO.source_address midR.source_address) = some b ∧
      OInv data 0 (g - 1) b ∧ b.deadline ≤ tO := by
    rw [ha2]
    exact ⟨_, PyDict.get?_set_self _ _ _,
      { hdata := rfl, hnum := rfl, hnext := rfl, hstate := rfl, hdl := Nat.ne_of_gt htO,
        hwait := by show some ((0 + g - 1 : Nat) : Int) = _; rw [Nat.zero_add] }, Nat.le_refl _⟩
  obtain ⟨i1, i2, i3, i4⟩ := run_delivers cfgO midO midR data (rtsPgn dp pf midR.source_address) g (by omega) hmax (rtsPgn_lt _ _ _) hd
    (by omega) (Tp21.num_packets data.length) xs a2.1 a1.1 0 (g - 1) tO b r (by omega) (by omega) (by omega) hb' hr ob rb hbd hsched hxs
  rw [deliveries_append, deliveries_append, i1, i3, ha1, ha2]
  exact ⟨rfl, i2, rfl, i4⟩

/-- the hypotheses of `c01_rtscts_end_to_end` are satisfiable: a 20-byte PDU1 message 0x80 → 0x90 on empty stacks,
    four rounds 10 ms apart -/
example : (sendPgn {} {} 1000 0 239 0x90 6 0x80 (List.range 20)).2 = true ∧
    (0x90 == Const.Addr.GLOBAL || PGN.is_pdu2_format (PGN.ofFields 0 239 0x90)) = false ∧
    Sched {} 3000 [(10000, 10001, 10002), (20000, 20001, 20002), (30000, 30001, 30002), (40000, 40001, 40002)] ∧
    Tp21.num_packets (List.range 20).length + 1 ≤ 4 := by
  refine ⟨by decide, by decide, ?_, by decide⟩
  simp [Sched]

section SessionKeys
open J1939.Bits

/-- the J1939-21 session key in arithmetic form -/
theorem hash21_arith (s d : Nat) : Tp21.buffer_hash s d = s % 256 * 256 + d % 256 := by
  rw [Tp21.buffer_hash, and_255, and_255, shl_or _ _ 8 (by omega)]

/-- SESSIONS OF DIFFERENT PEER PAIRS NEVER SHARE A BUFFER: the key under which `send_pgn`, `notify` and the job thread store
    and look up a transport session (regenerated from the source's `_buffer_hash`) is injective on all 256 × 256
    (source, destination) pairs, so no transfer can be continued, overwritten or freed by frames of another pair -/
theorem c01_session_key_injective (s d s' d' : Nat) (hs : s < 256) (hd : d < 256) (hs' : s' < 256) (hd' : d' < 256)
    (h : Tp21.buffer_hash s d = Tp21.buffer_hash s' d') : s = s' ∧ d = d' := by
  rw [hash21_arith, hash21_arith, Nat.mod_eq_of_lt hs, Nat.mod_eq_of_lt hd, Nat.mod_eq_of_lt hs', Nat.mod_eq_of_lt hd'] at h
  omega

end SessionKeys

end J1939.Props.C01
