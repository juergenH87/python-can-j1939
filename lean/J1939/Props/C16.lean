/-
  C16 — Diagnostic trouble codes and lamp states arrive exactly as sent (DM1, DTC, DM22).
  The per-code arithmetic, lamp extraction, lamp tables and the DM22 builder are the definitions regenerated from
  diagnostic_messages.py; list handling and length checks are Model/Dm1.lean (tied by correspondence).
-/
import J1939.Lemmas.Dm1
import J1939.Props.C12
namespace J1939.Props.C16
open J1939 J1939.Gen J1939.Dm1 J1939.Lemmas J1939.Bits

/-- pack → unpack is the identity on every in-range (SPN 19 bit, FMI 5 bit, OC 7 bit) trouble code, conversion mode 0 -/
theorem c16_dtc_roundtrip (d : Dtc) (h : Dtc.InRange d) :
    (let x := DTC.ofDtc (DTC.ofFields d.spn d.fmi d.oc).dtc; ({ spn := x.spn, fmi := x.fmi, oc := x.oc } : Dtc)) = d ∧
    (DTC.ofDtc (DTC.ofFields d.spn d.fmi d.oc).dtc).cm = 0 := by
  refine ⟨unpack_pack d h, ?_⟩
  rw [dtc_unpack_pack]

/-- the four bytes on the wire are the SAE J1939-73 layout: SPN bits 0..7 | 8..15 | SPN bits 16..18 above the FMI | OC -/
theorem c16_dtc_layout (d : Dtc) (h : Dtc.InRange d) : dtcBytes d = Ref.dtcBytes d.spn d.fmi d.oc :=
  dtcBytes_eq d

/-- all 5^4 lamp state combinations survive build → parse, whatever follows the two lamp bytes: each lamp has a two-bit
    field of its own in either byte, and `get_status` inverts the two tables -/
theorem c16_lamps : ∀ a < 5, ∀ b < 5, ∀ c < 5, ∀ e < 5,
    let l := lampData [a, b, c, e]
    DtcLamp.get_status (Py.idx l 0 &&& 3) (Py.idx l 1 &&& 3) = a ∧
    DtcLamp.get_status ((Py.idx l 0 >>> 2) &&& 3) ((Py.idx l 1 >>> 2) &&& 3) = b ∧
    DtcLamp.get_status ((Py.idx l 0 >>> 4) &&& 3) ((Py.idx l 1 >>> 4) &&& 3) = c ∧
    DtcLamp.get_status ((Py.idx l 0 >>> 6) &&& 3) ((Py.idx l 1 >>> 6) &&& 3) = e := by
  intro a ha b hb c hc e he
  obtain ⟨la, fa, sa⟩ := lamp_table a ha
  obtain ⟨lb, fb, sb⟩ := lamp_table b hb
  obtain ⟨lc, fc, sc⟩ := lamp_table c hc
  obtain ⟨le, fe, se⟩ := lamp_table e he
  obtain ⟨l0, l1, l2, l3⟩ := pairs_read _ _ _ _ la lb lc le
  obtain ⟨f0, f1, f2, f3⟩ := pairs_read _ _ _ _ fa fb fc fe
  simp only [lampData_four a b c e ha hb hc he, idx_cons_zero, idx_cons_succ]
  rw [l0, l1, l2, l3, f0, f1, f2, f3]
  exact ⟨sa, sb, sc, se⟩

/-- the lamp bit pairs sit at the J1939-73 positions: byte 1 = lamp status (mil 7-6, rsl 5-4, awl 3-2, pl 1-0),
    byte 2 = flash (same order) -/
theorem c16_lamp_positions : ∀ a < 5, ∀ b < 5, ∀ c < 5, ∀ e < 5,
    lampData [a, b, c, e] =
      [Py.idx Const.Lamp.lut_lamp a + 4 * Py.idx Const.Lamp.lut_lamp b + 16 * Py.idx Const.Lamp.lut_lamp c + 64 * Py.idx Const.Lamp.lut_lamp e,
       Py.idx Const.Lamp.lut_flash a + 4 * Py.idx Const.Lamp.lut_flash b + 16 * Py.idx Const.Lamp.lut_flash c + 64 * Py.idx Const.Lamp.lut_flash e] := by
  intro a ha b hb c hc e he
  obtain ⟨la, fa, -⟩ := lamp_table a ha
  obtain ⟨lb, fb, -⟩ := lamp_table b hb
  obtain ⟨lc, fc, -⟩ := lamp_table c hc
  rw [lampData_four a b c e ha hb hc he, or_pairs _ _ _ _ la lb lc, or_pairs _ _ _ _ fa fb fc]
  simp only [Radix.val, List.cons.injEq, and_true]
  omega

/-- a built DM1 has length 2 + 4n: at least 6 and never the special length 8 -/
theorem c16_dm1_length (lamps : List Nat) (dtcs : List Dtc) (hne : dtcs ≠ []) :
    (build lamps dtcs).length = 2 + 4 * dtcs.length ∧ 6 ≤ (build lamps dtcs).length ∧ (build lamps dtcs).length ≠ 8 := by
  have : 0 < dtcs.length := List.length_pos_iff.mpr hne
  rw [build_length]; omega

/-- DM1 ROUND TRIP: for all lamp states and every non-empty list of in-range trouble codes — of any length —
    parsing the built payload returns exactly the lamp states and the list, in order -/
theorem c16_dm1_roundtrip (a b c e : Nat) (ha : a < 5) (hb : b < 5) (hc : c < 5) (he : e < 5)
    (dtcs : List Dtc) (hne : dtcs ≠ []) (hr : ∀ d ∈ dtcs, Dtc.InRange d) :
    parse (build [a, b, c, e] dtcs) = some ([a, b, c, e], dtcs) := by
  obtain ⟨pl, awl, rsl, mil⟩ := c16_lamps a ha b hb c hc e he
  rw [parse_of_length _ dtcs.length (List.length_pos_iff.mpr hne) (build_length _ _)]
  simp only [Gen.Dm1.parse_lamp_pl, Gen.Dm1.parse_lamp_awl, Gen.Dm1.parse_lamp_rsl, Gen.Dm1.parse_lamp_mil,
    build_idx _ _ 0 (by decide), build_idx _ _ 1 (by decide), pl, awl, rsl, mil]
  rw [build, parse_list (lampData [a, b, c, e]) rfl dtcs hr]

/-- what goes to the transport: PGN 0xFECA as PF/PS, priority 6 for a single frame and 7 when a transport
    protocol is needed (J1939-21 requirement) -/
theorem c16_dm1_send (lamps : List Nat) (dtcs : List Dtc) :
    let r := send 65226 lamps dtcs
    r.dp = 0 ∧ r.pf = 254 ∧ r.ps = 202 ∧ r.data = build lamps dtcs ∧ (r.prio = if 2 + 4 * dtcs.length > 8 then 7 else 6) := by
  refine ⟨rfl, rfl, rfl, rfl, ?_⟩
  simp only [send, build_length]

/-- DM22 individual clear request: control byte first, bytes 2..5 0xFF, SPN/FMI at the positions of a DTC's first three bytes -/
theorem c16_dm22_layout (pgn ctrl dest fmi spn : Nat) (hs : spn < 524288) (hf : fmi < 32) :
    (Dm22.send_request pgn ctrl dest fmi spn).data = [ctrl, 255, 255, 255, 255] ++ (Ref.dtcBytes spn fmi 0).take 3 :=
  dm22_data pgn ctrl dest fmi spn

theorem c16_dm22_addressing (pgn ctrl dest fmi spn : Nat) :
    let r := Dm22.send_request pgn ctrl dest fmi spn
    r.dp = 0 ∧ r.pf = pgn / 256 % 256 ∧ r.ps = dest % 256 ∧ r.prio = 6 := by
  simp only [Dm22.send_request, and_255, shr_8, and_self]

/-- CYCLE: start_send registers one periodic timer with the Dm1 object's `_send` as callback; after stop_send no
    such timer remains and `_send` is not called again (timer model of C12) -/
theorem c16_stop_send (c : Ecu.Core) (sendCb : Nat) (now clk w : Nat)
    (hnoadd : ∀ b ∈ c.cbs, ∀ d ck, Ecu.TOp.add d sendCb ck ∉ b.ops) :
    let c' := c.removeTimer sendCb
    (∀ t ∈ c'.timers, t.cb ≠ sendCb) ∧ (∀ ev, Ecu.Obs.call ev ∈ (c'.pass now clk w).2.2.2 → ev.cb ≠ sendCb) := by
  have h1 : ∀ t ∈ (c.removeTimer sendCb).timers, t.cb ≠ sendCb := by
    intro t ht; rw [Ecu.removeTimer_timers] at ht; simpa using (List.mem_filter.mp ht).2
  exact ⟨h1, (J1939.Props.C12.c12_not_called_when_unregistered _ now clk w sendCb h1 hnoadd).1⟩

/-! non-vacuity -/
example : Dtc.InRange { spn := 0x7FFFF, fmi := 31, oc := 127 } := by unfold Dtc.InRange; decide
example : parse (build [1, 0, 3, 4] [{ spn := 0x7FFFF, fmi := 31, oc := 127 }, { spn := 0, fmi := 0, oc := 0 }])
    = some ([1, 0, 3, 4], [{ spn := 0x7FFFF, fmi := 31, oc := 127 }, { spn := 0, fmi := 0, oc := 0 }]) := by decide

end J1939.Props.C16
