/-
  C17 — DM14 memory access returns and stores exactly the addressed data.
  Model: Model/Dm14.lean (message level; tied to memory_access.py / Dm14Query.py / Dm14Server.py by lock-step
  correspondence).  Proved for the code as repaired by D13, D14, D15, D16, D21.
-/
import J1939.Lemmas.Dm14
namespace J1939.Props.C17
open J1939 J1939.Gen J1939.Dm14

theorem toBytesLE_lt (n x : Nat) : ∀ b ∈ Py.toBytesLE n x, b < 256 := by
  induction n generalizing x with
  | zero => intro b hb; cases hb
  | succ n ih =>
    intro b hb
    simp only [Py.toBytesLE, List.mem_cons] at hb
    rcases hb with rfl | hb
    · omega
    · exact ih _ b hb

/-- the bytes `_values_to_bytes` produces for a list of values of `size` bytes each -/
def valuesToBytes (size : Nat) (values : List Nat) : List Nat := (values.map (Py.toBytesLE size)).flatten

theorem valuesToBytes_length (size : Nat) (values : List Nat) : (valuesToBytes size values).length = values.length * size := by
  induction values with
  | nil => simp [valuesToBytes]
  | cons v vs ih =>
    simp only [valuesToBytes, List.map_cons, List.flatten_cons, List.length_append, toBytesLE_length, List.length_cons] at ih ⊢
    rw [ih, Nat.succ_mul]
    omega

theorem bytesToValues_valuesToBytes (size : Nat) (hs : 0 < size) (signed : Bool) (values : List Nat) (hv : ∀ v ∈ values, v < 256 ^ size) :
    bytesToValues size signed (valuesToBytes size values)
      = values.map (fun (v : Nat) => if signed && v ≥ 2 ^ (8 * size - 1) then (v : Int) - (2 : Int) ^ (8 * size) else (v : Int)) := by
  unfold bytesToValues
  rw [valuesToBytes_length, Nat.mul_div_cancel _ hs]
  induction values with
  | nil => rfl
  | cons v vs ih =>
    have hl := toBytesLE_length size v
    simp only [valuesToBytes, List.map_cons, List.flatten_cons, List.length_cons, chunkValues]
    rw [List.take_left' hl, List.drop_left' hl, fromBytesLE_toBytesLE size v (hv v (by simp))]
    exact congrArg _ (ih (fun w hw => hv w (by simp [hw])))

/-- VALUE ROUND TRIP (unsigned): for every object size > 0 and every list of values in range, reading back the bytes
    a write produces gives the values — count, order and content (this is what D13 broke for count > 1) -/
theorem c17_values_bytes (size : Nat) (hs : 0 < size) (values : List Nat) (hv : ∀ v ∈ values, v < 256 ^ size) :
    bytesToValues size false (valuesToBytes size values) = values.map (fun (v : Nat) => (v : Int)) := by
  simpa using bytesToValues_valuesToBytes size hs false values hv

/-- VALUE READING (signed): each object is the two's-complement reading of its `size` bytes -/
theorem c17_values_signed (size : Nat) (hs : 0 < size) (values : List Nat) (hv : ∀ v ∈ values, v < 256 ^ size) :
    bytesToValues size true (valuesToBytes size values)
      = values.map (fun (v : Nat) => if v ≥ 2 ^ (8 * size - 1) then (v : Int) - 2 ^ (8 * size) else (v : Int)) := by
  simpa using bytesToValues_valuesToBytes size hs true values hv

/-- what `set_seed_key_algorithm` / `set_proceed` / the constructor fix: never touched by a transaction -/
def cfg (n : Node) : Bool × Bool × Bool × Bool × Nat := (n.seedSecurity, n.hasProceed, n.s.hasKey, n.q.hasKey, n.q.userLevel)

theorem cfg_sDm15 (s : Server) (a b c d : Nat) (st : SState) (e : Nat) (sa : Option Nat) (f g : Nat) :
    (sDm15 s a b c d st e sa f g).1.hasKey = s.hasKey := by
  unfold sDm15
  cases st <;> cases sa <;> rfl

/-! Every function of the model builds its node from the one it is given by record updates that name no component of
    `cfg`, and by calling other such functions.  The proofs follow the definitions: `extract_lets` names the
    intermediate results as the definition does (`_` for the source a `{ x with … }` binds internally when `x` is not a
    variable: `n.s`, `r.n`), one `have` per
    intermediate node says that its `cfg` is still that of `n`, and the conditionals are taken apart by `cfg_ite`
    (whose `g` is the projection to the node: `Res.n`, `Prod.fst` or `id`). -/

theorem cfg_ite {α : Type} {g : α → Node} {c : Prop} [Decidable c] {a b : α} {n : Node} (ha : cfg (g a) = cfg n)
    (hb : cfg (g b) = cfg n) : cfg (g (if c then a else b)) = cfg n :=
  ite_ind (P := (· = cfg n)) (g := fun x => cfg (g x)) ha hb

/-- the server's handlers change the subscriber list and the server object, whose `hasKey` they keep -/
theorem cfg_server (n : Node) (subs : List Cb) (s : Server) (h : s.hasKey = n.s.hasKey) :
    cfg { n with subs := subs, s := s } = cfg n := by
  simp only [cfg, h]

theorem cfg_sParseDm14 (n : Node) (seedIn : Nat) (p : Pdu) : cfg (sParseDm14 n seedIn p).n = cfg n := by
  unfold sParseDm14
  refine cfg_ite rfl (cfg_ite rfl (cfg_ite (cfg_server n _ _ (cfg_sDm15 ..)) ?_))
  cases n.s.state with
  | idle => exact cfg_ite (cfg_server n _ _ (cfg_sDm15 ..)) rfl
  | _ => rfl

theorem cfg_sParseDm16 (n : Node) (seedIn : Nat) (p : Pdu) : cfg (sParseDm16 n seedIn p).n = cfg n := by
  unfold sParseDm16
  refine cfg_ite rfl (cfg_ite rfl ?_)
  simp only [cfg, unsub, sub, cfg_sDm15, apply_ite Server.hasKey, ite_self]

theorem cfg_qWaitForData (n : Node) : cfg (qWaitForData n).n = cfg n := by
  unfold qWaitForData
  exact cfg_ite rfl (cfg_ite rfl rfl)

theorem cfg_qParseDm15 (env : Env) (n : Node) (p : Pdu) : cfg (qParseDm15 env n p).n = cfg n := by
  unfold qParseDm15
  refine cfg_ite rfl (cfg_ite rfl (cfg_ite ?failed ?answered))
  case failed => exact cfg_ite rfl rfl
  case answered =>
    exact cfg_ite (cfg_qWaitForData n) (cfg_ite (cfg_ite rfl rfl) (cfg_ite rfl (cfg_ite rfl rfl)))

theorem cfg_qParseDm16 (n : Node) (p : Pdu) : cfg (qParseDm16 n p).n = cfg n := by
  unfold qParseDm16
  exact cfg_ite rfl (cfg_ite rfl rfl)

theorem cfg_sReset (n : Node) : cfg (sReset n) = cfg n := rfl

theorem cfg_fRefuse (n : Node) (seedIn : Nat) (p : Pdu) (code : Nat) (fr : Bool) : cfg (fRefuse n seedIn p code fr).n = cfg n := by
  unfold fRefuse
  extract_lets _ n1 r _ _ n2 n3
  have hr : cfg r.n = cfg n := cfg_sParseDm14 n1 seedIn p
  have h2 : cfg n2 = cfg n := hr
  have h3 : cfg n3 = cfg n := cfg_ite (g := id) ((cfg_sReset (sub n2 .listen)).trans h2) ((cfg_sReset n2).trans h2)
  cases r.err with
  | some e => exact hr
  | none => exact h3

theorem cfg_fConsult (n : Node) (seedIn : Nat) (acc : Bool) (p : Pdu) (k sd : Nat) (fr : Bool) :
    cfg (fConsult n seedIn acc p k sd fr).n = cfg n := by
  unfold fConsult
  exact cfg_ite rfl (cfg_ite rfl (cfg_fRefuse ..))

theorem cfg_fListen (env : Env) (n : Node) (seedIn : Nat) (acc : Bool) (p : Pdu) : cfg (fListen env n seedIn acc p).n = cfg n := by
  unfold fListen
  -- the DM14 handler's result, and what follows it, in the states idle (`I`), requestStarted (`S`) and waitQuery (`Q`)
  extract_lets rI _ nI cI rS _ nS cS fS _ rQ
  have hI : cfg rI.n = cfg n := cfg_sParseDm14 ..
  have hcI : cfg cI.n = cfg n := (cfg_fConsult ..).trans hI
  have hS : cfg rS.n = cfg n := cfg_sParseDm14 ..
  have hcS : cfg cS.n = cfg n := (cfg_fConsult ..).trans hS
  have hfS : cfg fS.n = cfg n := (cfg_fRefuse ..).trans hS
  have hQ : cfg rQ.n = cfg n := cfg_sParseDm14 ..
  refine cfg_ite rfl ?_
  cases n.f with
  | idle =>
    refine cfg_ite rfl ?_
    cases rI.err with
    | some e => exact hI
    | none => exact cfg_ite hcI hI
  | requestStarted =>
    cases rS.err with
    | some e => exact hS
    | none => exact cfg_ite (cfg_ite (cfg_ite hcS hfS) hS) hS
  | waitQuery => exact hQ
  | waitResponse => rfl

theorem cfg_runCb (env : Env) (n : Node) (seedIn : Nat) (acc : Bool) (p : Pdu) (c : Cb) : cfg (runCb env n seedIn acc p c).n = cfg n := by
  cases c <;> simp only [runCb, cfg_fListen, cfg_sParseDm14, cfg_sParseDm16, cfg_qParseDm15, cfg_qParseDm16]

theorem cfg_notifyLoop (env : Env) (seedIn : Nat) (acc : Bool) (p : Pdu) (fuel i : Nat) (n : Node) (o : List Out) :
    cfg (notifyLoop env seedIn acc p fuel i n o).n = cfg n := by
  induction fuel generalizing i n o with
  | zero => rfl
  | succ fuel ih =>
    unfold notifyLoop
    split
    · rfl
    · dsimp only
      split
      · exact cfg_runCb env n seedIn acc p _
      · rw [ih]; exact cfg_runCb env n seedIn acc p _

/-- CONFIGURATION IS INVARIANT: no PDU changes the seed/key and proceed configuration or the user level of a node -/
theorem cfg_deliver (env : Env) (n : Node) (seedIn : Nat) (acc : Bool) (p : Pdu) : cfg (deliver env n seedIn acc p).n = cfg n :=
  cfg_notifyLoop env seedIn acc p 64 0 n []

theorem cfg_clientResume (n : Node) (t : Bool) : cfg (clientResume n t).1 = cfg n := by
  obtain ⟨dq, xq, h⟩ := clientResume_fst n t
  rw [h]
  rfl

theorem cfg_readBegin (n : Node) (a b c d e : Nat) (f g : Bool) : cfg (readBegin n a b c d e f g).1 = cfg n := by
  unfold readBegin
  exact cfg_ite rfl (cfg_ite rfl (cfg_ite rfl rfl))

theorem cfg_read (n : Node) (a b c d e : Nat) (f g : Bool) : cfg (Dm14.read n a b c d e f g).1 = cfg n := by
  unfold Dm14.read
  exact cfg_ite ((cfg_clientResume ..).trans (cfg_readBegin ..)) (cfg_readBegin ..)

theorem cfg_writeBegin (n : Node) (a b c : Nat) (v : List Nat) (e : Nat) : cfg (writeBegin n a b c v e).1 = cfg n := by
  unfold writeBegin
  exact cfg_ite rfl (cfg_ite rfl (cfg_ite rfl rfl))

theorem cfg_write (n : Node) (a b c : Nat) (v : List Nat) (e : Nat) : cfg (Dm14.write n a b c v e).1 = cfg n := by
  unfold Dm14.write
  exact cfg_ite ((cfg_clientResume ..).trans (cfg_writeBegin ..)) (cfg_writeBegin ..)

theorem cfg_respondResume (n : Node) (t : Bool) : cfg (respondResume n t).1 = cfg n := by
  unfold respondResume
  cases t <;> cases n.s.dataQ <;> rfl

theorem cfg_sDm16 (n : Node) : cfg (sDm16 n).n = cfg n := by
  unfold sDm16
  extract_lets s bc data n1
  have h1 : cfg n1 = cfg n := cfg_ite (g := id) rfl rfl
  cases n.s.sa <;> exact h1

theorem cfg_sWaitForData (n : Node) (seedIn : Nat) : cfg (sWaitForData n seedIn).n = cfg n := by
  unfold sWaitForData
  extract_lets n0 s r n1 n2 r2 _ _ n3 s3 r3
  have h1 : cfg n1 = cfg n := cfg_server n n0.subs r.1 (cfg_sDm15 s ..)
  have h2 : cfg r2.n = cfg n := (cfg_sDm16 n2).trans h1
  have h3 : cfg { n3 with s := r3.1 } = cfg n := (cfg_server r2.n n3.subs r3.1 (cfg_sDm15 s3 ..)).trans h2
  cases r.2.2 with
  | some e => exact h1
  | none =>
    refine cfg_ite ?_ (cfg_ite h1 h1)
    cases r2.err with
    | some e => exact h2
    | none => exact cfg_ite h3 h2

theorem cfg_respond (n : Node) (seedIn : Nat) (pr : Bool) (d : List Nat) (e x : Nat) : cfg (respond n seedIn pr d e x).1 = cfg n := by
  unfold respond
  extract_lets n1 _ s1 r r2
  have hr : cfg r.n = cfg n := cfg_sWaitForData { n1 with s := s1 } seedIn
  have hr2 : cfg r2.1 = cfg n := (cfg_respondResume ..).trans hr
  refine cfg_ite rfl ?_
  cases r.err with
  | some e => exact hr
  | none => exact cfg_ite (cfg_ite hr hr2) hr

/-- nothing of a previous transaction is left on the node -/
structure Clean (n : Node) : Prop where
  f : n.f = .idle
  q : n.q.state = .idle
  s : n.s.state = .idle
  subs : n.subs = [.listen]
  qd : n.q.dataQ = []
  qe : n.q.excQ = []
  sd : n.s.dataQ = []
  sa : n.s.sa = none
  addr : n.s.address = none
  busy : n.s.busy = false
  len : n.s.length = 8

/-- the opening DM14 the client sends -/
def openDm14 (count direct cmd address level : Nat) : List Nat :=
  [count, (direct <<< 4) + (cmd <<< 1) + 1] ++ Py.toBytesLE 4 address ++ [level &&& 0xFF, level >>> 8]

/-- it is what `_send_dm14` builds from the query's fields -/
theorem qDm14_open (q : Query) (k : Nat) :
    qDm14 q k = .tx PGN_DM14 (q.dest &&& 0xFF) 6 (openDm14 q.objectCount q.direct q.command q.address k) := rfl

/-- what `parse_dm14` extracts from it; the step theorems hand this to `simp`, which does not return without it -/
theorem open_decode (count direct cmd address level : Nat) (hc : cmd < 8) :
    (openDm14 count direct cmd address level).length = 8 ∧
    Dm14.s_command (openDm14 count direct cmd address level) = cmd ∧
    Dm14.s_pointer_type (openDm14 count direct cmd address level) = direct % 2 ∧
    Py.slice (openDm14 count direct cmd address level) 2 6 = Py.toBytesLE 4 address ∧
    Py.idx (openDm14 count direct cmd address level) 1 >>> 4 = direct ∧
    Py.idx (openDm14 count direct cmd address level) 7 <<< 8 + Py.idx (openDm14 count direct cmd address level) 6 = level :=
  ⟨by simp [openDm14, toBytesLE_length], command_hdr count direct cmd _ hc, pointer_type_hdr count direct cmd _ hc,
    by simp [openDm14, Py.slice, Py.toBytesLE], hdr_direct direct cmd hc, le16 level⟩

theorem open_count (count direct cmd address level : Nat) : Py.idx (openDm14 count direct cmd address level) 0 = count := rfl
attribute [simp] open_count

theorem server_accepts (env : Env) (s0 : Node) (hcl : Clean s0) (hsec : s0.seedSecurity = false) (hp : s0.hasProceed = true)
    (seed cl count direct cmd address level : Nat) (hc : cmd < 8) (hd : direct < 16) (ha : address < 2 ^ 32) (hlv : level < 2 ^ 16)
    (hk : s0.s.hasKey = false) :
    deliver env s0 seed true ⟨PGN_DM14, cl, openDm14 count direct cmd address level⟩ =
      { n := { s0 with subs := [], f := .waitResponse,
                       s := { s0.s with sa := some cl, state := .sendProceed, status := ST_PROCEED, length := 8,
                                        address := some (Py.toBytesLE 4 address), direct := direct, command := cmd,
                                        pointerType := direct % 2, objectCount := count, accessLevel := level,
                                        data := openDm14 count direct cmd address level } },
        outs := [.proceed cmd address (direct % 2) 8 count 0xFFFF cl level 0, .notify], err := none } := by
  simp [deliver, notifyLoop, runCb, fListen, sParseDm14, sRejects, fConsult, unsub, hcl.f, hcl.s, hcl.subs, hcl.sa, hcl.addr, hcl.busy,
    hsec, hp, hk, open_decode count direct cmd address level hc, fromBytesLE_toBytesLE 4 address ha]

def proceedDm15 (direct count : Nat) : List Nat := [count, (direct <<< 4) + (ST_PROCEED <<< 1) + 1, 255, 255, 255, 255, 255, 255]
def opcDm15 (direct : Nat) : List Nat := [0, (direct <<< 4) + (CMD_OPER_COMPLETED <<< 1) + 1, 255, 255, 255, 255, 255, 255]
def seedDm15 (direct seed : Nat) : List Nat := [0, (direct <<< 4) + (ST_PROCEED <<< 1) + 1, 255, 255, 255, 255, seed &&& 255, seed >>> 8]

/-! What the client extracts from them.  The seed field is not decided by `rfl`: the kernel would count 0xFFFF down in unary. -/
theorem proceed_decode (direct count : Nat) : Answer ST_PROCEED 0xFFFF count (proceedDm15 direct count) :=
  ⟨Nat.le_refl 8, status_hdr count direct ST_PROCEED _ (by decide), by simp [Dm14.q_dm15_seed, proceedDm15, Py.idx], rfl⟩

theorem opc_decode (direct : Nat) : Answer CMD_OPER_COMPLETED 0xFFFF 0 (opcDm15 direct) :=
  ⟨Nat.le_refl 8, status_hdr 0 direct CMD_OPER_COMPLETED _ (by decide), by simp [Dm14.q_dm15_seed, opcDm15, Py.idx], rfl⟩

theorem seed_decode (direct seed : Nat) : Answer ST_PROCEED seed 0 (seedDm15 direct seed) :=
  ⟨Nat.le_refl 8, status_hdr 0 direct ST_PROCEED _ (by decide), le16 seed, rfl⟩

/-- DM16 as the server sends it: length byte (0xFF above 7 bytes), the data, 0xFF fill up to 8 bytes -/
def srvDm16 (d : List Nat) : List Nat := ((if d.length > 7 then 0xFF else d.length) :: d) ++ List.replicate (8 - d.length - 1) 0xFF
/-- the closing 'operation completed' DM14 -/
def closeDm14 (direct address : Nat) : List Nat := openDm14 1 direct CMD_OPER_COMPLETED address 0xFFFF

/-- the client's DM16 (write): length byte (0xFF above 7 bytes) and the bytes -/
def cliDm16 (bytes : List Nat) : List Nat := (if bytes.length > 7 then 0xFF else bytes.length) :: bytes

theorem cliDm16_payload (bytes : List Nat) (hb : bytes.length ≤ 255) :
    Py.slice (cliDm16 bytes) 1 (min (Py.idx (cliDm16 bytes) 0) ((cliDm16 bytes).length - 1) + 1) = bytes := by
  simp only [cliDm16, Py.idx, List.getD_cons_zero, List.length_cons, Nat.add_sub_cancel, Py.slice]
  have : min (if bytes.length > 7 then 255 else bytes.length) bytes.length = bytes.length := by
    split <;> omega
  rw [this]
  simp

theorem srvDm16_long (d : List Nat) (hd : 7 < d.length) : srvDm16 d = 0xFF :: d := by
  unfold srvDm16
  have : 8 - d.length - 1 = 0 := by omega
  simp [hd, this]

theorem srvDm16_payload (d : List Nat) (hd : d.length ≤ 255) :
    Py.slice (srvDm16 d) 1 (min (Py.idx (srvDm16 d) 0) ((srvDm16 d).length - 1) + 1) = d := by
  by_cases h : d.length > 7
  · rw [srvDm16_long d h, show 0xFF :: d = cliDm16 d by rw [cliDm16, if_pos h]]
    exact cliDm16_payload d hd
  · unfold srvDm16
    simp only [h, if_false, Py.idx, List.cons_append, List.getD_cons_zero, List.length_cons, List.length_append,
      List.length_replicate, Nat.add_sub_cancel, Py.slice]
    have : min d.length (d.length + (8 - d.length - 1)) = d.length := by omega
    rw [this]
    simp

theorem srvDm16_length (d : List Nat) : 1 ≤ (srvDm16 d).length := by simp [srvDm16]

/-- SEED/KEY, server side, step 1: the opening DM14 is answered with the seed the generator returns; the application is
    not consulted; the server waits for the key -/
theorem server_sends_seed (env : Env) (s0 : Node) (hcl : Clean s0) (hsec : s0.seedSecurity = true) (hk : s0.s.hasKey = true)
    (seed cl count direct cmd address level : Nat) (hc : cmd < 8) (hd : direct < 16) (hlv : level < 2 ^ 16) :
    deliver env s0 seed true ⟨PGN_DM14, cl, openDm14 count direct cmd address level⟩ =
      { n := { s0 with f := .requestStarted,
                       s := { s0.s with sa := some cl, state := .waitKey, status := ST_PROCEED, length := 8,
                                        address := some (Py.toBytesLE 4 address), direct := direct, command := cmd,
                                        pointerType := direct % 2, objectCount := count, accessLevel := level,
                                        data := openDm14 count direct cmd address level, seed := seed } },
        outs := [.tx PGN_DM15 (cl &&& 0xFF) 6 (seedDm15 direct seed)], err := none } := by
  simp [deliver, notifyLoop, runCb, fListen, sParseDm14, sRejects, hcl.f, hcl.s, hcl.subs, hcl.sa, hcl.addr, hcl.busy, hsec, hk,
    open_decode count direct cmd address level hc, sDm15, seedDm15, Py.set, ST_PROCEED]

/-- the server node after it accepted a request and before the application answered -/
def Accepted (s1 : Node) (cl count direct cmd : Nat) : Prop :=
  s1.f = .waitResponse ∧ s1.subs.filter (· != Cb.listen) = [] ∧ s1.s.sa = some cl ∧ s1.s.state = .sendProceed ∧ s1.s.length = 8 ∧
  s1.s.direct = direct ∧ s1.s.command = cmd ∧ s1.s.objectCount = count ∧ s1.s.busy = false ∧ s1.s.dataQ = []

/-- SEED/KEY, server side, step 2: the DM14 carrying the RIGHT key (the configured function of the seed that was sent)
    for the same request is verified, the application is consulted with key and seed, and the node is in the same
    `Accepted` state a request without seed/key reaches — so everything after it (`server_read_short`,
    `server_read_long`, `server_write_*`, `server_closing`) applies unchanged -/
theorem server_accepts_key (env : Env) (s1 : Node) (cl count direct cmd address key sd2 : Nat)
    (hc : cmd < 8) (hd : direct < 16) (hkey : key < 2 ^ 16) (ha : address < 2 ^ 32)
    (hf : s1.f = .requestStarted) (hsubs : s1.subs = [.listen]) (hsec : s1.seedSecurity = true) (hp : s1.hasProceed = true)
    (hst : s1.s.state = .waitKey) (hsa : s1.s.sa = some cl) (haddr : s1.s.address = some (Py.toBytesLE 4 address))
    (hb : s1.s.busy = false) (hl : s1.s.length = 8) (hq : s1.s.dataQ = []) (hright : env.skey s1.s.seed = key) :
    (deliver env s1 sd2 true ⟨PGN_DM14, cl, openDm14 count direct cmd address key⟩).outs = [.proceed cmd address s1.s.pointerType 8 count key cl s1.s.accessLevel s1.s.seed, .notify] ∧
    (deliver env s1 sd2 true ⟨PGN_DM14, cl, openDm14 count direct cmd address key⟩).err = none ∧ Accepted (deliver env s1 sd2 true ⟨PGN_DM14, cl, openDm14 count direct cmd address key⟩).n cl count direct cmd ∧
    (deliver env s1 sd2 true ⟨PGN_DM14, cl, openDm14 count direct cmd address key⟩).n.q = s1.q ∧ (deliver env s1 sd2 true ⟨PGN_DM14, cl, openDm14 count direct cmd address key⟩).n.s.address = some (Py.toBytesLE 4 address) ∧
    cfg (deliver env s1 sd2 true ⟨PGN_DM14, cl, openDm14 count direct cmd address key⟩).n = cfg s1 := by
  simp [deliver, notifyLoop, runCb, fListen, fConsult, sParseDm14, sRejects, hf, hsubs, hsec, hp, hst, hsa, haddr, hb, hl, hq,
    open_decode count direct cmd address key hc, hright, Accepted, fromBytesLE_toBytesLE 4 address ha, cfg]

/-- READ, server side, up to 7 bytes: the application's answer goes out as proceed, DM16 with exactly its bytes, and
    operation-complete; the server then waits for the closing DM14 -/
theorem server_read_short (s1 : Node) (cl count direct seed : Nat) (h : Accepted s1 cl count direct CMD_READ) (d : List Nat)
    (hd : d.length ≤ 7) (e x : Nat) :
    (respond s1 seed true d e x).2 =
        ([.tx PGN_DM15 (cl &&& 0xFF) 6 (proceedDm15 direct count), .tx PGN_DM16 (cl &&& 0xFF) 7 (srvDm16 d),
          .tx PGN_DM15 (cl &&& 0xFF) 6 (opcDm15 direct)], .none) ∧
      (respond s1 seed true d e x).1.f = .idle ∧ (respond s1 seed true d e x).1.subs = [.srv14, .listen] ∧
      (respond s1 seed true d e x).1.s.state = .waitOperComplete ∧ (respond s1 seed true d e x).1.s.sa = some cl ∧
      (respond s1 seed true d e x).1.s.dataQ = [] ∧ (respond s1 seed true d e x).1.s.busy = false ∧
      (respond s1 seed true d e x).1.s.length = 8 ∧ (respond s1 seed true d e x).1.q = s1.q ∧
      (respond s1 seed true d e x).1.s.address = s1.s.address ∧ (respond s1 seed true d e x).1.seedSecurity = s1.seedSecurity := by
  obtain ⟨hf, hsubs, hsa, -, hlen, hdir, hcmd, hcnt, hbusy, hq⟩ := h
  simp [respond, hf, sWaitForData, sub, unsub, hsubs, sDm15, hlen, hdir, hsa, hcmd, CMD_READ, sDm16, hd, Nat.not_lt.mpr hd, hcnt, proceedDm15,
      opcDm15, srvDm16, Py.set, ST_PROCEED, CMD_OPER_COMPLETED, hbusy, hq]

/-- the server node while it waits for the closing DM14 -/
def Closing (s2 : Node) (cl : Nat) : Prop :=
  s2.f = .idle ∧ (s2.subs = [.srv14, .listen] ∨ s2.subs = [.listen, .srv14]) ∧ s2.s.state = .waitOperComplete ∧ s2.s.sa = some cl ∧
  s2.s.dataQ = [] ∧ s2.s.busy = false ∧ s2.s.length = 8

/-- READ, server side, 8..255 bytes: proceed and the multi-packet DM16 with exactly the bytes; nothing else until the
    transport reports the end-of-message acknowledgement -/
theorem server_read_long (s1 : Node) (cl count direct seed : Nat) (h : Accepted s1 cl count direct CMD_READ) (d : List Nat)
    (hd : 7 < d.length) (e x : Nat) :
    (respond s1 seed true d e x).2 =
        ([.tx PGN_DM15 (cl &&& 0xFF) 6 (proceedDm15 direct count), .tx PGN_DM16 (cl &&& 0xFF) 7 (0xFF :: d)], .none) ∧
      (respond s1 seed true d e x).1.f = .idle ∧ (respond s1 seed true d e x).1.subs = [.srv16, .listen] ∧
      (respond s1 seed true d e x).1.s.state = .sendProceed ∧ (respond s1 seed true d e x).1.s.sa = some cl ∧
      (respond s1 seed true d e x).1.s.dataQ = [] ∧ (respond s1 seed true d e x).1.s.busy = false ∧
      (respond s1 seed true d e x).1.s.length = 8 ∧ (respond s1 seed true d e x).1.s.direct = direct ∧
      (respond s1 seed true d e x).1.q = s1.q ∧ (respond s1 seed true d e x).1.s.address = s1.s.address := by
  obtain ⟨hf, hsubs, hsa, -, hlen, hdir, hcmd, hcnt, hbusy, hq⟩ := h
  have hrep : 8 - d.length - 1 = 0 := by omega
  simp [respond, hf, sWaitForData, sub, unsub, hsubs, sDm15, hlen, hdir, hsa, hcmd, CMD_READ, sDm16, hd, Nat.not_le.mpr hd, hcnt, proceedDm15,
      Py.set, ST_PROCEED, hbusy, hq, hrep]

/-- ... and when the acknowledgement of its DM16 is reported (any PDU content: the server looks at PGN and sender only)
    it sends operation-complete, queues NOTHING as written data (D15) and waits for the closing DM14 -/
theorem server_read_ack (env : Env) (s2 : Node) (cl direct seed : Nat) (acc : Bool) (ack : List Nat) (hack : 1 ≤ ack.length)
    (hf : s2.f = .idle) (hsubs : s2.subs = [.srv16, .listen]) (hst : s2.s.state = .sendProceed) (hsa : s2.s.sa = some cl)
    (hq : s2.s.dataQ = []) (hb : s2.s.busy = false) (hl : s2.s.length = 8) (hdir : s2.s.direct = direct) :
    (deliver env s2 seed acc ⟨PGN_DM16, cl, ack⟩).outs = [.tx PGN_DM15 (cl &&& 0xFF) 6 (opcDm15 direct)] ∧
    (deliver env s2 seed acc ⟨PGN_DM16, cl, ack⟩).err = none ∧ Closing (deliver env s2 seed acc ⟨PGN_DM16, cl, ack⟩).n cl ∧
    (deliver env s2 seed acc ⟨PGN_DM16, cl, ack⟩).n.q = s2.q ∧
    (deliver env s2 seed acc ⟨PGN_DM16, cl, ack⟩).n.s.address = s2.s.address := by
  simp [deliver, notifyLoop, hsubs, runCb, sParseDm16, hsa, Nat.not_lt.mpr hack, hst, sub, unsub, sDm15, hl,
    hdir, opcDm15, Py.set, CMD_OPER_COMPLETED, Closing, hf, hq, hb]

/-- WRITE, server side: proceed goes out and the application waits for the data -/
theorem server_write_begin (s1 : Node) (cl count direct seed : Nat) (h : Accepted s1 cl count direct CMD_WRITE) (d : List Nat) (e x : Nat) :
    (respond s1 seed true d e x).2 = ([.tx PGN_DM15 (cl &&& 0xFF) 6 (proceedDm15 direct count)], .blocked) ∧
      (respond s1 seed true d e x).1.f = .idle ∧ (respond s1 seed true d e x).1.subs = [.srv16] ∧
      (respond s1 seed true d e x).1.s.state = .waitDm16 ∧ (respond s1 seed true d e x).1.s.sa = some cl ∧
      (respond s1 seed true d e x).1.s.dataQ = [] ∧ (respond s1 seed true d e x).1.s.busy = false ∧
      (respond s1 seed true d e x).1.s.length = 8 ∧ (respond s1 seed true d e x).1.s.direct = direct ∧
      (respond s1 seed true d e x).1.q = s1.q ∧ (respond s1 seed true d e x).1.s.address = s1.s.address := by
  obtain ⟨hf, hsubs, hsa, -, hlen, hdir, hcmd, hcnt, hbusy, hq⟩ := h
  simp [respond, hf, sWaitForData, sub, unsub, hsubs, sDm15, hlen, hdir, hsa, hcmd, CMD_READ, CMD_WRITE, hcnt, proceedDm15,
      Py.set, ST_PROCEED, hbusy, hq]

/-- ... the written bytes arrive: exactly they are queued for the application, operation-complete goes out -/
theorem server_write_data (env : Env) (s2 : Node) (cl direct seed : Nat) (acc : Bool) (bytes : List Nat) (hbl : bytes.length ≤ 255)
    (hf : s2.f = .idle) (hsubs : s2.subs = [.srv16]) (hst : s2.s.state = .waitDm16) (hsa : s2.s.sa = some cl)
    (hq : s2.s.dataQ = []) (hb : s2.s.busy = false) (hl : s2.s.length = 8) (hdir : s2.s.direct = direct) :
    (deliver env s2 seed acc ⟨PGN_DM16, cl, cliDm16 bytes⟩).outs = [.tx PGN_DM15 (cl &&& 0xFF) 6 (opcDm15 direct)] ∧
    (deliver env s2 seed acc ⟨PGN_DM16, cl, cliDm16 bytes⟩).err = none ∧
    (respondResume (deliver env s2 seed acc ⟨PGN_DM16, cl, cliDm16 bytes⟩).n false).2 = .data bytes ∧
    Closing (respondResume (deliver env s2 seed acc ⟨PGN_DM16, cl, cliDm16 bytes⟩).n false).1 cl ∧
    (respondResume (deliver env s2 seed acc ⟨PGN_DM16, cl, cliDm16 bytes⟩).n false).1.q = s2.q ∧
    (respondResume (deliver env s2 seed acc ⟨PGN_DM16, cl, cliDm16 bytes⟩).n false).1.s.address = s2.s.address := by
  have hlen : ¬ (cliDm16 bytes).length < 1 := by simp [cliDm16]
  simp [deliver, notifyLoop, hsubs, runCb, sParseDm16, hsa, hlen, hst, sub, unsub, sDm15, hl,
    hdir, opcDm15, Py.set, CMD_OPER_COMPLETED, Closing, hf, hq, hb, respondResume, cliDm16_payload bytes hbl]

/-- CLOSING, server side: the closing DM14 of the running requester (whatever its bytes beyond the pointer it is
    checked against) returns the server to a clean state and is NOT taken for a new request by the facade -/
theorem server_closing (env : Env) (s2 : Node) (cl seed : Nat) (acc : Bool) (data : List Nat) (hc : Closing s2 cl) (hl : data.length = 8)
    (haddr : ∀ ad, s2.s.address = some ad → ad = Py.slice data 2 6) :
    (deliver env s2 seed acc ⟨PGN_DM14, cl, data⟩).outs = [] ∧ (deliver env s2 seed acc ⟨PGN_DM14, cl, data⟩).err = none ∧ (deliver env s2 seed acc ⟨PGN_DM14, cl, data⟩).n.f = .idle ∧ (deliver env s2 seed acc ⟨PGN_DM14, cl, data⟩).n.s.state = .idle ∧
    (deliver env s2 seed acc ⟨PGN_DM14, cl, data⟩).n.subs = [.listen] ∧ (deliver env s2 seed acc ⟨PGN_DM14, cl, data⟩).n.s.sa = none ∧ (deliver env s2 seed acc ⟨PGN_DM14, cl, data⟩).n.s.address = none ∧ (deliver env s2 seed acc ⟨PGN_DM14, cl, data⟩).n.s.dataQ = [] ∧
    (deliver env s2 seed acc ⟨PGN_DM14, cl, data⟩).n.s.busy = false ∧ (deliver env s2 seed acc ⟨PGN_DM14, cl, data⟩).n.s.length = 8 ∧ (deliver env s2 seed acc ⟨PGN_DM14, cl, data⟩).n.q = s2.q := by
  obtain ⟨hf, hsubs, hst, hsa, hq, hbusy, hlen⟩ := hc
  -- not rejected: the running requester, the pointer the server kept, no busy flag
  have hp := sParseDm14_closes s2 seed ⟨PGN_DM14, cl, data⟩ rfl (Nat.le_of_eq hl.symm)
    (sRejects_false _ _ (fun a ha => Option.some.inj (hsa.symm.trans ha)) (fun ad ha => hlen ▸ haddr ad ha) hbusy) hst
  rcases hsubs with hsubs | hsubs
  · simp [deliver, notifyLoop, hsubs, runCb, hp, unsub, hf, hq, hbusy, hl]
  · have hli : fListen env s2 seed acc ⟨PGN_DM14, cl, data⟩ = { n := s2 } := by
      simp [fListen, hf, hst]
    simp [deliver, notifyLoop, hsubs, runCb, hli, hp, unsub, hf, hq, hbusy, hl]

/-! On the server's side a transaction is an opening (one DM14, or DM14 – seed – DM14 with the key), a service (the
    application's `respond`, then the transport's acknowledgement of a long read or the client's DM16 of a write) and the
    closing DM14.  Whichever opening was used leaves the node `Accepted`, every service leaves it `Closing`. -/

/-- what the serving node carries unchanged from the request to the closing DM14: its own client object, and the
    pointer the closing DM14 is checked against -/
def Keeps (s0 n : Node) (address : Nat) : Prop := n.q = s0.q ∧ n.s.address = some (Py.toBytesLE 4 address)

theorem open_plain (env : Env) {s0 : Node} (hcl : Clean s0) (hsec : s0.seedSecurity = false) (hp : s0.hasProceed = true)
    (hk : s0.s.hasKey = false) (seed cl count direct cmd address level : Nat) (hc : cmd < 8) (hd : direct < 16) (ha : address < 2 ^ 32)
    (hlv : level < 2 ^ 16) :
    let rq := deliver env s0 seed true ⟨PGN_DM14, cl, openDm14 count direct cmd address level⟩
    rq.outs = [.proceed cmd address (direct % 2) 8 count 0xFFFF cl level 0, .notify] ∧ rq.err = none ∧
    Accepted rq.n cl count direct cmd ∧ Keeps s0 rq.n address := by
  rw [server_accepts env s0 hcl hsec hp seed cl count direct cmd address level hc hd ha hlv hk]
  exact ⟨rfl, rfl, ⟨rfl, rfl, rfl, rfl, rfl, rfl, rfl, rfl, hcl.busy, hcl.sd⟩, rfl, rfl⟩

theorem open_key (env : Env) {s0 : Node} (hcl : Clean s0) (hsec : s0.seedSecurity = true) (hk : s0.s.hasKey = true)
    (hp : s0.hasProceed = true) (seed sd2 cl count direct cmd address level : Nat) (hc : cmd < 8) (hd : direct < 16)
    (ha : address < 2 ^ 32) (hlv : level < 2 ^ 16) (hk16 : env.skey seed < 2 ^ 16) :
    let rs1 := deliver env s0 seed true ⟨PGN_DM14, cl, openDm14 count direct cmd address level⟩
    let rs2 := deliver env rs1.n sd2 true ⟨PGN_DM14, cl, openDm14 count direct cmd address (env.skey seed)⟩
    rs1.outs = [.tx PGN_DM15 (cl &&& 0xFF) 6 (seedDm15 direct seed)] ∧
    rs2.outs = [.proceed cmd address (direct % 2) 8 count (env.skey seed) cl level seed, .notify] ∧
    Accepted rs2.n cl count direct cmd ∧ Keeps s0 rs2.n address := by
  -- with the node after the first step written out, what `server_accepts_key` asks of it is there to read
  have K := server_accepts_key env (deliver env s0 seed true ⟨PGN_DM14, cl, openDm14 count direct cmd address level⟩).n
    cl count direct cmd address (env.skey seed) sd2 hc hd hk16 ha
  dsimp only
  rw [server_sends_seed env s0 hcl hsec hk seed cl count direct cmd address level hc hd hlv] at K ⊢
  obtain ⟨k1, -, k3, k4, k5, -⟩ := K rfl hcl.subs hsec hp rfl rfl rfl hcl.busy rfl hcl.sd rfl
  exact ⟨rfl, k1, k3, k4, k5⟩

theorem serve_read_short {s0 s1 : Node} {cl count direct address : Nat} (seed : Nat) (h : Accepted s1 cl count direct CMD_READ)
    (hk : Keeps s0 s1 address) (d : List Nat) (hd : d.length ≤ 7) (e x : Nat) :
    (respond s1 seed true d e x).2 =
        ([.tx PGN_DM15 (cl &&& 0xFF) 6 (proceedDm15 direct count), .tx PGN_DM16 (cl &&& 0xFF) 7 (srvDm16 d),
          .tx PGN_DM15 (cl &&& 0xFF) 6 (opcDm15 direct)], .none) ∧
      Closing (respond s1 seed true d e x).1 cl ∧ Keeps s0 (respond s1 seed true d e x).1 address := by
  obtain ⟨p1, p2, p3, p4, p5, p6, p7, p8, p9, p10, -⟩ := server_read_short s1 cl count direct seed h d hd e x
  exact ⟨p1, ⟨p2, .inl p3, p4, p5, p6, p7, p8⟩, p9.trans hk.1, p10.trans hk.2⟩

theorem serve_read_long (env : Env) {s0 s1 : Node} {cl count direct address : Nat} (seed seed' : Nat) (acc : Bool)
    (h : Accepted s1 cl count direct CMD_READ) (hk : Keeps s0 s1 address) (d ack : List Nat) (hd : 7 < d.length)
    (hack : 1 ≤ ack.length) (e x : Nat) :
    let rp := respond s1 seed' true d e x
    let ra := deliver env rp.1 seed acc ⟨PGN_DM16, cl, ack⟩
    rp.2 = ([.tx PGN_DM15 (cl &&& 0xFF) 6 (proceedDm15 direct count), .tx PGN_DM16 (cl &&& 0xFF) 7 (srvDm16 d)], .none) ∧
    ra.outs = [.tx PGN_DM15 (cl &&& 0xFF) 6 (opcDm15 direct)] ∧ ra.err = none ∧ Closing ra.n cl ∧ Keeps s0 ra.n address := by
  obtain ⟨p1, p2, p3, p4, p5, p6, p7, p8, p9, p10, p11⟩ := server_read_long s1 cl count direct seed' h d hd e x
  obtain ⟨a1, a2, a3, a4, a5⟩ := server_read_ack env _ cl direct seed acc ack hack p2 p3 p4 p5 p6 p7 p8 p9
  exact ⟨by rw [p1, srvDm16_long d hd], a1, a2, a3, (a4.trans p10).trans hk.1, (a5.trans p11).trans hk.2⟩

theorem serve_write (env : Env) {s0 s1 : Node} {cl count direct address : Nat} (seed seed' : Nat) (acc : Bool)
    (h : Accepted s1 cl count direct CMD_WRITE) (hk : Keeps s0 s1 address) (dd bytes : List Nat) (hb : bytes.length ≤ 255) (e x : Nat) :
    let rp := respond s1 seed' true dd e x
    let rw := deliver env rp.1 seed acc ⟨PGN_DM16, cl, cliDm16 bytes⟩
    let rr := respondResume rw.n false
    rp.2 = ([.tx PGN_DM15 (cl &&& 0xFF) 6 (proceedDm15 direct count)], .blocked) ∧
    rw.outs = [.tx PGN_DM15 (cl &&& 0xFF) 6 (opcDm15 direct)] ∧ rw.err = none ∧ rr.2 = .data bytes ∧
    Closing rr.1 cl ∧ Keeps s0 rr.1 address := by
  obtain ⟨p1, p2, p3, p4, p5, p6, p7, p8, p9, p10, p11⟩ := server_write_begin s1 cl count direct seed' h dd e x
  obtain ⟨w1, w2, w3, w4, w5, w6⟩ := server_write_data env _ cl direct seed acc bytes hb p2 p3 p4 p5 p6 p7 p8 p9
  exact ⟨p1, w1, w2, w3, w4, (w5.trans p10).trans hk.1, (w6.trans p11).trans hk.2⟩

/-- the client's closing DM14 names the pointer the server kept -/
theorem close_clean (env : Env) {s0 s2 : Node} (hs0 : Clean s0) {cl address : Nat} (seed direct : Nat) (acc : Bool) (hc : Closing s2 cl)
    (hk : Keeps s0 s2 address) :
    let rz := deliver env s2 seed acc ⟨PGN_DM14, cl, closeDm14 direct address⟩
    rz.outs = [] ∧ rz.err = none ∧ Clean rz.n := by
  obtain ⟨hlen, -, -, hptr, -, -⟩ := open_decode 1 direct CMD_OPER_COMPLETED address 0xFFFF (by decide)
  have haddr : ∀ ad, s2.s.address = some ad → ad = Py.slice (closeDm14 direct address) 2 6 :=
    fun ad h => (Option.some.inj (h.symm.trans hk.2)).trans hptr.symm
  obtain ⟨houts, herr, zf, zst, zsubs, zsa, zaddr, zdq, zbusy, zlen, zq⟩ :=
    server_closing env s2 cl seed acc (closeDm14 direct address) hc hlen haddr
  -- the client object of the serving node is still that of `s0`, which was clean
  have hq := zq.trans hk.1
  exact ⟨houts, herr, { f := zf, q := hq ▸ hs0.q, s := zst, subs := zsubs, qd := hq ▸ hs0.qd, qe := hq ▸ hs0.qe, sd := zdq,
                        sa := zsa, addr := zaddr, busy := zbusy, len := zlen }⟩

/-- what the client's `read` returns for the bytes `d` -/
def readResult (osize : Nat) (signed raw : Bool) (d : List Nat) : Ret :=
  .values (if d.isEmpty then [] else if raw then d.map (fun (x : Nat) => (x : Int)) else bytesToValues osize signed d)

/-- the client's side of a read, fed the server's three PDUs in order (`dm16` is the DM16 PDU as it arrives, single
    frame or reassembled) -/
def clientRead (env : Env) (c0 : Node) (sv direct address count osize : Nat) (signed raw : Bool) (dm16 : List Nat) :
    Node × List Out × Ret :=
  let r1 := read c0 sv direct address count osize signed raw
  let r2 := deliver env r1.1 0 true ⟨PGN_DM15, sv, proceedDm15 direct count⟩
  let r3 := deliver env r2.n 0 true ⟨PGN_DM16, sv, dm16⟩
  let r4 := deliver env r3.n 0 true ⟨PGN_DM15, sv, opcDm15 direct⟩
  let r5 := clientResume r4.n false
  (r5.1, r1.2.1 ++ r2.outs ++ r3.outs ++ r4.outs, r5.2)

/-- the client node (clean before the call) while its read waits for the first answer -/
def cWaitSeed (c0 : Node) (sv direct address count osize : Nat) (signed raw : Bool) : Node :=
  { c0 with f := .waitQuery, subs := [.listen, .q15],
            q := { c0.q with state := .waitSeed, dataQ := [], excQ := [], dest := sv, direct := direct, address := address,
                             objectCount := count, objSize := osize, signed := signed, raw := raw, command := CMD_READ,
                             isRead := true } }

theorem client_read_begin (c0 : Node) (hcl : Clean c0) (sv direct address count osize : Nat) (signed raw : Bool)
    (hc : count ≠ 0) (ha : address < 2 ^ 32) :
    Dm14.read c0 sv direct address count osize signed raw =
      (cWaitSeed c0 sv direct address count osize signed raw,
       [.tx PGN_DM14 (sv &&& 0xFF) 6 (openDm14 count direct CMD_READ address c0.q.userLevel)], .blocked) := by
  simp [Dm14.read, readBegin, hcl.f, hc, Nat.not_le.mpr ha, sub, hcl.subs, hcl.qd, hcl.qe, qDm14_open, cWaitSeed]

/-! The client's handlers, one PDU each, as equations on a node `c` of which only the subscriber list and the fields the
    handler reads are known.  The facade listens too and ignores every PDU that is not DM14. -/

/-- SEED/KEY, client side: the seed DM15 is answered with the DM14 carrying the configured key function of EXACTLY that
    seed (any 16-bit seed, 0xFFFF included); the client's state does not change — it goes on waiting for proceed -/
theorem client_answers_seed (env : Env) (c : Node) (sv direct seed : Nat) (hd : direct < 16) (hs : seed < 2 ^ 16)
    (hsubs : c.subs = [.listen, .q15]) (h1 : c.q.state = .waitSeed) (h2 : c.q.dest = sv) (h3 : c.q.objectCount ≠ 0)
    (h4 : c.q.hasKey = true) :
    deliver env c 0 true ⟨PGN_DM15, sv, seedDm15 direct seed⟩ = { n := c, outs := [qDm14 c.q (env.ckey seed)] } := by
  have hd := seed_decode direct seed
  simp [deliver, notifyLoop, hsubs, runCb, qParseDm15, h2, Nat.not_lt.mpr hd.len, hd.status, hd.seed, hd.count, h3.symm, ST_PROCEED,
    ST_BUSY, ST_OPER_FAILED, h1, h4]

theorem client_read_proceed (env : Env) (c : Node) (sv count : Nat) (d : List Nat) (hd : Answer ST_PROCEED 0xFFFF count d)
    (hsubs : c.subs = [.listen, .q15]) (h1 : c.q.state = .waitSeed) (h2 : c.q.dest = sv) (h3 : c.q.objectCount = count)
    (h4 : c.q.command = CMD_READ) :
    deliver env c 0 true ⟨PGN_DM15, sv, d⟩ = { n := { c with subs := [.listen, .q16], q := { c.q with state := .waitDm16 } } } := by
  simp [deliver, notifyLoop, hsubs, runCb, qParseDm15, h2, Nat.not_lt.mpr hd.len, hd.status, hd.seed, hd.count, h3, ST_PROCEED, ST_BUSY,
    ST_OPER_FAILED, qWaitForData, h1, h4, CMD_READ, CMD_WRITE, sub, unsub]

theorem client_write_proceed (env : Env) (c : Node) (sv count : Nat) (d : List Nat) (hd : Answer ST_PROCEED 0xFFFF count d)
    (hsubs : c.subs = [.listen, .q15]) (h1 : c.q.state = .waitSeed) (h2 : c.q.dest = sv) (h3 : c.q.objectCount = count)
    (h4 : c.q.command = CMD_WRITE) :
    deliver env c 0 true ⟨PGN_DM15, sv, d⟩ =
      { n := { c with q := { c.q with state := .waitOper } }, outs := [.tx PGN_DM16 (sv &&& 0xFF) 6 (cliDm16 c.q.bytes)] } := by
  simp [deliver, notifyLoop, hsubs, runCb, qParseDm15, h2, Nat.not_lt.mpr hd.len, hd.status, hd.seed, hd.count, h3, ST_PROCEED, ST_BUSY,
    ST_OPER_FAILED, qWaitForData, h1, h4, CMD_WRITE, qDm16, cliDm16]

theorem client_read_data (env : Env) (c : Node) (sv : Nat) (dm16 d : List Nat)
    (h16 : 1 ≤ dm16.length) (hpay : Py.slice dm16 1 (min (Py.idx dm16 0) (dm16.length - 1) + 1) = d)
    (hsubs : c.subs = [.listen, .q16]) (h2 : c.q.dest = sv) :
    deliver env c 0 true ⟨PGN_DM16, sv, dm16⟩ =
      { n := { c with subs := [.listen, .q15], q := { c.q with memData := some d, state := .waitOper } } } := by
  simp [deliver, notifyLoop, hsubs, runCb, qParseDm16, h2, Nat.not_lt.mpr h16, hpay, sub, unsub]

/-- operation-complete ends a read and a write alike -/
theorem client_complete (env : Env) (c : Node) (sv : Nat) (d : List Nat) (hd : Answer CMD_OPER_COMPLETED 0xFFFF 0 d)
    (hsubs : c.subs = [.listen, .q15]) (h1 : c.q.state = .waitOper) (h2 : c.q.dest = sv) (h3 : c.q.objectCount ≠ 0)
    (h4 : c.q.dataQ = []) :
    deliver env c 0 true ⟨PGN_DM15, sv, d⟩ =
      { n := { c with q := { c.q with objectCount := 1, command := CMD_OPER_COMPLETED, state := .idle, dataQ := [c.q.memData] } },
        outs := [qDm14 { c.q with objectCount := 1, command := CMD_OPER_COMPLETED } 0xFFFF] } := by
  simp [deliver, notifyLoop, hsubs, runCb, qParseDm15, h2, Nat.not_lt.mpr hd.len, hd.status, hd.seed, hd.count, h3.symm, ST_BUSY,
    ST_OPER_FAILED, h1, h4, CMD_OPER_COMPLETED]

theorem client_read_tail (env : Env) (c0 : Node) (hcl : Clean c0) (sv direct address count osize : Nat) (signed raw : Bool)
    (dm16 d : List Nat) (hc : count ≠ 0) (h16 : 1 ≤ dm16.length)
    (hpay : Py.slice dm16 1 (min (Py.idx dm16 0) (dm16.length - 1) + 1) = d) :
    let r2 := deliver env (cWaitSeed c0 sv direct address count osize signed raw) 0 true ⟨PGN_DM15, sv, proceedDm15 direct count⟩
    let r3 := deliver env r2.n 0 true ⟨PGN_DM16, sv, dm16⟩
    let r4 := deliver env r3.n 0 true ⟨PGN_DM15, sv, opcDm15 direct⟩
    r2.outs = [] ∧ r3.outs = [] ∧ r4.outs = [.tx PGN_DM14 (sv &&& 0xFF) 6 (closeDm14 direct address)] ∧
    (clientResume r4.n false).2 = readResult osize signed raw d ∧ Clean (clientResume r4.n false).1 ∧
    (clientResume r4.n false).1.s = c0.s := by
  dsimp only
  rw [client_read_proceed env _ sv count _ (proceed_decode direct count) rfl rfl rfl rfl rfl]
  dsimp only
  rw [client_read_data env _ sv dm16 d h16 hpay rfl rfl]
  dsimp only
  rw [client_complete env _ sv _ (opc_decode direct) rfl rfl rfl hc rfl]
  dsimp only
  rw [clientResume_read _ d [] rfl rfl rfl]
  exact ⟨rfl, rfl, rfl, rfl, { hcl with f := rfl, q := rfl, subs := rfl, qd := rfl, qe := rfl }, rfl⟩

/-- READ, client side: the call sends the opening DM14, then — fed proceed, the DM16 and operation-complete — the
    closing DM14, and returns exactly the DM16's payload (raw or converted); nothing of the transaction stays behind -/
theorem client_read (env : Env) (c0 : Node) (hcl : Clean c0) (sv direct address count osize : Nat) (signed raw : Bool) (dm16 d : List Nat)
    (hc : count ≠ 0) (ha : address < 2 ^ 32) (hd : direct < 16) (h16 : 1 ≤ dm16.length)
    (hpay : Py.slice dm16 1 (min (Py.idx dm16 0) (dm16.length - 1) + 1) = d) :
    (clientRead env c0 sv direct address count osize signed raw dm16).2.1 =
      [.tx PGN_DM14 (sv &&& 0xFF) 6 (openDm14 count direct CMD_READ address c0.q.userLevel),
       .tx PGN_DM14 (sv &&& 0xFF) 6 (closeDm14 direct address)] ∧
    (clientRead env c0 sv direct address count osize signed raw dm16).2.2 = readResult osize signed raw d ∧
    Clean (clientRead env c0 sv direct address count osize signed raw dm16).1 ∧
    (clientRead env c0 sv direct address count osize signed raw dm16).1.s = c0.s := by
  unfold clientRead
  rw [client_read_begin c0 hcl sv direct address count osize signed raw hc ha]
  obtain ⟨o2, o3, o4, t2, t3, t4⟩ := client_read_tail env c0 hcl sv direct address count osize signed raw dm16 d hc h16 hpay
  dsimp only
  refine ⟨?_, t2, t3, t4⟩
  rw [o2, o3, o4]
  rfl

/-- the client's side of a read with seed/key: as `clientRead`, with the seed DM15 answered in between -/
def clientReadSK (env : Env) (c0 : Node) (sv direct address count osize : Nat) (signed raw : Bool) (seed : Nat) (dm16 : List Nat) :
    Node × List Out × Ret :=
  let r1 := Dm14.read c0 sv direct address count osize signed raw
  let r1b := deliver env r1.1 0 true ⟨PGN_DM15, sv, seedDm15 direct seed⟩
  let r2 := deliver env r1b.n 0 true ⟨PGN_DM15, sv, proceedDm15 direct count⟩
  let r3 := deliver env r2.n 0 true ⟨PGN_DM16, sv, dm16⟩
  let r4 := deliver env r3.n 0 true ⟨PGN_DM15, sv, opcDm15 direct⟩
  let r5 := clientResume r4.n false
  (r5.1, r1.2.1 ++ r1b.outs ++ r2.outs ++ r3.outs ++ r4.outs, r5.2)

theorem client_read_sk (env : Env) (c0 : Node) (hcl : Clean c0) (hck : c0.q.hasKey = true) (sv direct address count osize : Nat)
    (signed raw : Bool) (seed : Nat) (dm16 d : List Nat)
    (hc : count ≠ 0) (ha : address < 2 ^ 32) (hd : direct < 16) (hs : seed < 2 ^ 16) (h16 : 1 ≤ dm16.length)
    (hpay : Py.slice dm16 1 (min (Py.idx dm16 0) (dm16.length - 1) + 1) = d) :
    (clientReadSK env c0 sv direct address count osize signed raw seed dm16).2.1 =
      [.tx PGN_DM14 (sv &&& 0xFF) 6 (openDm14 count direct CMD_READ address c0.q.userLevel),
       .tx PGN_DM14 (sv &&& 0xFF) 6 (openDm14 count direct CMD_READ address (env.ckey seed)),
       .tx PGN_DM14 (sv &&& 0xFF) 6 (closeDm14 direct address)] ∧
    (clientReadSK env c0 sv direct address count osize signed raw seed dm16).2.2 = readResult osize signed raw d ∧
    Clean (clientReadSK env c0 sv direct address count osize signed raw seed dm16).1 := by
  unfold clientReadSK
  rw [client_read_begin c0 hcl sv direct address count osize signed raw hc ha]
  dsimp only
  rw [client_answers_seed env (cWaitSeed c0 sv direct address count osize signed raw) sv direct seed hd hs rfl rfl rfl hc hck]
  obtain ⟨o2, o3, o4, t2, t3, -⟩ := client_read_tail env c0 hcl sv direct address count osize signed raw dm16 d hc h16 hpay
  dsimp only
  refine ⟨?_, t2, t3⟩
  rw [o2, o3, o4]
  rfl

/-- the client node (clean before the call) while its write waits for the first answer -/
def cWaitSeedW (c0 : Node) (sv direct address osize : Nat) (values : List Nat) : Node :=
  { c0 with f := .waitQuery, subs := [.listen, .q15],
            q := { c0.q with state := .waitSeed, dataQ := [], excQ := [], dest := sv, direct := direct, address := address,
                             objSize := osize, command := CMD_WRITE, isRead := false, bytes := valuesToBytes osize values,
                             objectCount := values.length } }

theorem client_write_begin (c0 : Node) (hcl : Clean c0) (sv direct address osize : Nat) (values : List Nat)
    (hv : ∀ v ∈ values, v < 256 ^ osize) (ha : address < 2 ^ 32) :
    Dm14.write c0 sv direct address values osize =
      (cWaitSeedW c0 sv direct address osize values,
       [.tx PGN_DM14 (sv &&& 0xFF) 6 (openDm14 values.length direct CMD_WRITE address c0.q.userLevel)], .blocked) := by
  have hany : values.any (fun v => decide (v ≥ 256 ^ osize)) = false :=
    List.any_eq_false.mpr fun v hv' => by simpa using hv v hv'
  simp [Dm14.write, writeBegin, hcl.f, hany, Nat.not_le.mpr ha, sub, hcl.subs, hcl.qd, hcl.qe, qDm14_open, cWaitSeedW, valuesToBytes]

/-- the client's side of a write, fed the server's two PDUs -/
def clientWrite (env : Env) (c0 : Node) (sv direct address osize : Nat) (values : List Nat) : Node × List Out × Ret :=
  let r1 := Dm14.write c0 sv direct address values osize
  let r2 := deliver env r1.1 0 true ⟨PGN_DM15, sv, proceedDm15 direct values.length⟩
  let r4 := deliver env r2.n 0 true ⟨PGN_DM15, sv, opcDm15 direct⟩
  let r5 := clientResume r4.n false
  (r5.1, r1.2.1 ++ r2.outs ++ r4.outs, r5.2)

theorem client_write_tail (env : Env) (c0 : Node) (hcl : Clean c0) (sv direct address osize : Nat) (values : List Nat) (hc : values ≠ []) :
    let r2 := deliver env (cWaitSeedW c0 sv direct address osize values) 0 true ⟨PGN_DM15, sv, proceedDm15 direct values.length⟩
    let r4 := deliver env r2.n 0 true ⟨PGN_DM15, sv, opcDm15 direct⟩
    r2.outs = [.tx PGN_DM16 (sv &&& 0xFF) 6 (cliDm16 (valuesToBytes osize values))] ∧
    r4.outs = [.tx PGN_DM14 (sv &&& 0xFF) 6 (closeDm14 direct address)] ∧
    (clientResume r4.n false).2 = .none ∧ Clean (clientResume r4.n false).1 ∧ (clientResume r4.n false).1.s = c0.s := by
  have hcount : values.length ≠ 0 := mt List.length_eq_zero_iff.mp hc
  dsimp only
  rw [client_write_proceed env _ sv values.length _ (proceed_decode direct values.length) rfl rfl rfl rfl rfl]
  dsimp only
  rw [client_complete env _ sv _ (opc_decode direct) rfl rfl rfl hcount rfl]
  dsimp only
  rw [clientResume_write _ _ [] rfl rfl rfl]
  exact ⟨rfl, rfl, rfl, { hcl with f := rfl, q := rfl, subs := rfl, qd := rfl, qe := rfl }, rfl⟩

theorem client_write (env : Env) (c0 : Node) (hcl : Clean c0) (sv direct address osize : Nat) (values : List Nat)
    (hv : ∀ v ∈ values, v < 256 ^ osize) (hc : values ≠ []) (ha : address < 2 ^ 32) (hd : direct < 16) :
    (clientWrite env c0 sv direct address osize values).2.1 =
      [.tx PGN_DM14 (sv &&& 0xFF) 6 (openDm14 values.length direct CMD_WRITE address c0.q.userLevel),
       .tx PGN_DM16 (sv &&& 0xFF) 6 (cliDm16 (valuesToBytes osize values)),
       .tx PGN_DM14 (sv &&& 0xFF) 6 (closeDm14 direct address)] ∧
    (clientWrite env c0 sv direct address osize values).2.2 = .none ∧
    Clean (clientWrite env c0 sv direct address osize values).1 ∧
    (clientWrite env c0 sv direct address osize values).1.s = c0.s := by
  unfold clientWrite
  rw [client_write_begin c0 hcl sv direct address osize values hv ha]
  obtain ⟨o2, o4, t2, t3, t4⟩ := client_write_tail env c0 hcl sv direct address osize values hc
  dsimp only
  refine ⟨?_, t2, t3, t4⟩
  rw [o2, o4]
  rfl

/-- the client's side of a write with seed/key: as `clientWrite`, with the seed DM15 answered in between -/
def clientWriteSK (env : Env) (c0 : Node) (sv direct address osize : Nat) (values : List Nat) (seed : Nat) : Node × List Out × Ret :=
  let r1 := Dm14.write c0 sv direct address values osize
  let r1b := deliver env r1.1 0 true ⟨PGN_DM15, sv, seedDm15 direct seed⟩
  let r2 := deliver env r1b.n 0 true ⟨PGN_DM15, sv, proceedDm15 direct values.length⟩
  let r4 := deliver env r2.n 0 true ⟨PGN_DM15, sv, opcDm15 direct⟩
  let r5 := clientResume r4.n false
  (r5.1, r1.2.1 ++ r1b.outs ++ r2.outs ++ r4.outs, r5.2)

theorem client_write_sk (env : Env) (c0 : Node) (hcl : Clean c0) (hck : c0.q.hasKey = true) (sv direct address osize : Nat)
    (values : List Nat) (seed : Nat) (hv : ∀ v ∈ values, v < 256 ^ osize) (hc : values ≠ []) (ha : address < 2 ^ 32)
    (hd : direct < 16) (hs : seed < 2 ^ 16) :
    (clientWriteSK env c0 sv direct address osize values seed).2.1 =
      [.tx PGN_DM14 (sv &&& 0xFF) 6 (openDm14 values.length direct CMD_WRITE address c0.q.userLevel),
       .tx PGN_DM14 (sv &&& 0xFF) 6 (openDm14 values.length direct CMD_WRITE address (env.ckey seed)),
       .tx PGN_DM16 (sv &&& 0xFF) 6 (cliDm16 (valuesToBytes osize values)),
       .tx PGN_DM14 (sv &&& 0xFF) 6 (closeDm14 direct address)] ∧
    (clientWriteSK env c0 sv direct address osize values seed).2.2 = .none ∧
    Clean (clientWriteSK env c0 sv direct address osize values seed).1 := by
  have hcount : values.length ≠ 0 := mt List.length_eq_zero_iff.mp hc
  unfold clientWriteSK
  rw [client_write_begin c0 hcl sv direct address osize values hv ha]
  dsimp only
  rw [client_answers_seed env (cWaitSeedW c0 sv direct address osize values) sv direct seed hd hs rfl rfl rfl hcount hck]
  obtain ⟨o2, o4, t2, t3, -⟩ := client_write_tail env c0 hcl sv direct address osize values hc
  dsimp only
  refine ⟨?_, t2, t3⟩
  rw [o2, o4]
  rfl

/-- C17, READ of 1..7 bytes without seed/key, the whole transaction between a clean client and a clean server.
    The PDUs each side consumes are exactly the PDUs the other side produced (same terms on both sides of the
    statement), in the only order per-pair FIFO delivery allows:
    * the serving application is asked once, with the command, memory address, pointer type, count and requester the
      client used;
    * its answer `d` goes out as proceed / DM16 / operation complete;
    * the client's call returns exactly `d` (raw) or the values `d` encodes at the given size and signedness;
    * after the closing DM14 BOTH nodes are clean again (all three state machines idle, queues empty, only the facade
      subscribed, server bound to nobody) — so the next transaction starts from the same premises. -/
theorem c17_read_short (env : Env) (c0 s0 : Node) (hc0 : Clean c0) (hs0 : Clean s0) (hsec : s0.seedSecurity = false)
    (hp : s0.hasProceed = true) (hk : s0.s.hasKey = false) (cl sv direct address count osize : Nat) (signed raw : Bool) (d : List Nat)
    (seed seed' e x : Nat) (hcount : count ≠ 0) (ha : address < 2 ^ 32) (hd : direct < 16) (hlv : c0.q.userLevel < 2 ^ 16)
    (hd7 : d.length ≤ 7) :
    let rq := deliver env s0 seed true ⟨PGN_DM14, cl, openDm14 count direct CMD_READ address c0.q.userLevel⟩
    let rp := respond rq.n seed' true d e x
    let rc := clientRead env c0 sv direct address count osize signed raw (srvDm16 d)
    let rz := deliver env rp.1 seed true ⟨PGN_DM14, cl, closeDm14 direct address⟩
    rq.outs = [.proceed CMD_READ address (direct % 2) 8 count 0xFFFF cl c0.q.userLevel 0, .notify] ∧ rq.err = none ∧
    rp.2 = ([.tx PGN_DM15 (cl &&& 0xFF) 6 (proceedDm15 direct count), .tx PGN_DM16 (cl &&& 0xFF) 7 (srvDm16 d),
             .tx PGN_DM15 (cl &&& 0xFF) 6 (opcDm15 direct)], .none) ∧
    rc.2.1 = [.tx PGN_DM14 (sv &&& 0xFF) 6 (openDm14 count direct CMD_READ address c0.q.userLevel),
              .tx PGN_DM14 (sv &&& 0xFF) 6 (closeDm14 direct address)] ∧
    rc.2.2 = readResult osize signed raw d ∧ Clean rc.1 ∧
    rz.outs = [] ∧ rz.err = none ∧ Clean rz.n := by
  dsimp only
  obtain ⟨o1, o2, hA, hK⟩ := open_plain env hs0 hsec hp hk seed cl count direct CMD_READ address c0.q.userLevel (by decide) hd ha hlv
  obtain ⟨p1, hC, hK'⟩ := serve_read_short seed' hA hK d hd7 e x
  obtain ⟨c1, c2, c3, -⟩ := client_read env c0 hc0 sv direct address count osize signed raw (srvDm16 d) d hcount ha hd
    (srvDm16_length d) (srvDm16_payload d (by omega))
  obtain ⟨z1, z2, z3⟩ := close_clean env hs0 seed direct true hC hK'
  exact ⟨o1, o2, p1, c1, c2, c3, z1, z2, z3⟩

/-- C17, READ of 8..255 bytes (multi-packet DM16) without seed/key: as `c17_read_short`, with the transport's
    end-of-message acknowledgement (any content) triggering operation-complete — and NOT leaving anything in the
    server's data queue (D15).  Exactly `d` comes back for every length up to 255 (the 7/8 boundary is D14). -/
theorem c17_read_long (env : Env) (c0 s0 : Node) (hc0 : Clean c0) (hs0 : Clean s0) (hsec : s0.seedSecurity = false)
    (hp : s0.hasProceed = true) (hk : s0.s.hasKey = false) (cl sv direct address count osize : Nat) (signed raw : Bool) (d ack : List Nat)
    (seed seed' e x : Nat) (hcount : count ≠ 0) (ha : address < 2 ^ 32) (hd : direct < 16) (hlv : c0.q.userLevel < 2 ^ 16)
    (hd8 : 7 < d.length) (hd255 : d.length ≤ 255) (hack : 1 ≤ ack.length) :
    let rq := deliver env s0 seed true ⟨PGN_DM14, cl, openDm14 count direct CMD_READ address c0.q.userLevel⟩
    let rp := respond rq.n seed' true d e x
    let ra := deliver env rp.1 seed true ⟨PGN_DM16, cl, ack⟩
    let rc := clientRead env c0 sv direct address count osize signed raw (srvDm16 d)
    let rz := deliver env ra.n seed true ⟨PGN_DM14, cl, closeDm14 direct address⟩
    rq.outs = [.proceed CMD_READ address (direct % 2) 8 count 0xFFFF cl c0.q.userLevel 0, .notify] ∧ rq.err = none ∧
    rp.2 = ([.tx PGN_DM15 (cl &&& 0xFF) 6 (proceedDm15 direct count), .tx PGN_DM16 (cl &&& 0xFF) 7 (srvDm16 d)], .none) ∧
    ra.outs = [.tx PGN_DM15 (cl &&& 0xFF) 6 (opcDm15 direct)] ∧ ra.err = none ∧
    rc.2.1 = [.tx PGN_DM14 (sv &&& 0xFF) 6 (openDm14 count direct CMD_READ address c0.q.userLevel),
              .tx PGN_DM14 (sv &&& 0xFF) 6 (closeDm14 direct address)] ∧
    rc.2.2 = readResult osize signed raw d ∧ Clean rc.1 ∧
    rz.outs = [] ∧ rz.err = none ∧ Clean rz.n := by
  dsimp only
  obtain ⟨o1, o2, hA, hK⟩ := open_plain env hs0 hsec hp hk seed cl count direct CMD_READ address c0.q.userLevel (by decide) hd ha hlv
  obtain ⟨p1, a1, a2, hC, hK'⟩ := serve_read_long env seed seed' true hA hK d ack hd8 hack e x
  obtain ⟨c1, c2, c3, -⟩ := client_read env c0 hc0 sv direct address count osize signed raw (srvDm16 d) d hcount ha hd
    (srvDm16_length d) (srvDm16_payload d hd255)
  obtain ⟨z1, z2, z3⟩ := close_clean env hs0 seed direct true hC hK'
  exact ⟨o1, o2, p1, a1, a2, c1, c2, c3, z1, z2, z3⟩

/-- C17, WRITE of 1..255 bytes without seed/key, the whole transaction: the serving application is asked once with
    what the client asked (command WRITE, address, pointer type, number of values, requester), `respond()` hands it
    EXACTLY the little-endian bytes of the written values, the client's call returns, both nodes are clean. -/
theorem c17_write (env : Env) (c0 s0 : Node) (hc0 : Clean c0) (hs0 : Clean s0) (hsec : s0.seedSecurity = false)
    (hp : s0.hasProceed = true) (hk : s0.s.hasKey = false) (cl sv direct address osize : Nat) (values : List Nat) (dd : List Nat)
    (seed seed' e x : Nat) (hv : ∀ v ∈ values, v < 256 ^ osize) (hne : values ≠ []) (hbytes : values.length * osize ≤ 255)
    (ha : address < 2 ^ 32) (hd : direct < 16) (hlv : c0.q.userLevel < 2 ^ 16) :
    let rq := deliver env s0 seed true ⟨PGN_DM14, cl, openDm14 values.length direct CMD_WRITE address c0.q.userLevel⟩
    let rp := respond rq.n seed' true dd e x
    let rc := clientWrite env c0 sv direct address osize values
    let rw := deliver env rp.1 seed true ⟨PGN_DM16, cl, cliDm16 (valuesToBytes osize values)⟩
    let rr := respondResume rw.n false
    let rz := deliver env rr.1 seed true ⟨PGN_DM14, cl, closeDm14 direct address⟩
    rq.outs = [.proceed CMD_WRITE address (direct % 2) 8 values.length 0xFFFF cl c0.q.userLevel 0, .notify] ∧ rq.err = none ∧
    rp.2 = ([.tx PGN_DM15 (cl &&& 0xFF) 6 (proceedDm15 direct values.length)], .blocked) ∧
    rw.outs = [.tx PGN_DM15 (cl &&& 0xFF) 6 (opcDm15 direct)] ∧ rw.err = none ∧
    rr.2 = .data (valuesToBytes osize values) ∧
    rc.2.1 = [.tx PGN_DM14 (sv &&& 0xFF) 6 (openDm14 values.length direct CMD_WRITE address c0.q.userLevel),
              .tx PGN_DM16 (sv &&& 0xFF) 6 (cliDm16 (valuesToBytes osize values)),
              .tx PGN_DM14 (sv &&& 0xFF) 6 (closeDm14 direct address)] ∧
    rc.2.2 = .none ∧ Clean rc.1 ∧
    rz.outs = [] ∧ rz.err = none ∧ Clean rz.n := by
  dsimp only
  obtain ⟨o1, o2, hA, hK⟩ := open_plain env hs0 hsec hp hk seed cl values.length direct CMD_WRITE address c0.q.userLevel (by decide)
    hd ha hlv
  obtain ⟨p1, w1, w2, w3, hC, hK'⟩ := serve_write env seed seed' true hA hK dd
    (valuesToBytes osize values) (by rw [valuesToBytes_length]; exact hbytes) e x
  obtain ⟨c1, c2, c3, -⟩ := client_write env c0 hc0 sv direct address osize values hv hne ha hd
  obtain ⟨z1, z2, z3⟩ := close_clean env hs0 seed direct true hC hK'
  exact ⟨o1, o2, p1, w1, w2, w3, c1, c2, c3, z1, z2, z3⟩

/-- C17, THE SEED/KEY HANDSHAKE END TO END (read or write, any seed the generator returns, any pair of key functions
    that agree on that seed): client and server exchange opening DM14 → seed DM15 → key DM14; the application is
    consulted once — with the client's command, address, pointer type, count, requester, AND the key and seed — and
    the server is then in the `Accepted` state from which `server_read_short` / `server_read_long` / `server_write_*`
    / `server_closing` run exactly as without seed/key, while the client is still in the state in which
    `client_read_proceed` / `client_write_proceed` apply -/
theorem c17_seedkey_handshake (env : Env) (c0 s0 : Node) (hc0 : Clean c0) (hs0 : Clean s0) (hsec : s0.seedSecurity = true)
    (hk : s0.s.hasKey = true) (hp : s0.hasProceed = true) (hck : c0.q.hasKey = true)
    (cl sv direct address count osize seed sd2 : Nat) (signed raw : Bool)
    (hcount : count ≠ 0) (ha : address < 2 ^ 32) (hd : direct < 16) (hlv : c0.q.userLevel < 2 ^ 16) (hseed : seed < 2 ^ 16)
    (hkeys : env.ckey seed = env.skey seed) (hk16 : env.skey seed < 2 ^ 16) :
    let rc1 := Dm14.read c0 sv direct address count osize signed raw
    let rs1 := deliver env s0 seed true ⟨PGN_DM14, cl, openDm14 count direct CMD_READ address c0.q.userLevel⟩
    let rc2 := deliver env rc1.1 0 true ⟨PGN_DM15, sv, seedDm15 direct seed⟩
    let rs2 := deliver env rs1.n sd2 true ⟨PGN_DM14, cl, openDm14 count direct CMD_READ address (env.skey seed)⟩
    rc1.2.1 = [.tx PGN_DM14 (sv &&& 0xFF) 6 (openDm14 count direct CMD_READ address c0.q.userLevel)] ∧
    rs1.outs = [.tx PGN_DM15 (cl &&& 0xFF) 6 (seedDm15 direct seed)] ∧
    rc2.outs = [.tx PGN_DM14 (sv &&& 0xFF) 6 (openDm14 count direct CMD_READ address (env.skey seed))] ∧ rc2.n = rc1.1 ∧
    rs2.outs = [.proceed CMD_READ address (direct % 2) 8 count (env.skey seed) cl c0.q.userLevel seed, .notify] ∧
    Accepted rs2.n cl count direct CMD_READ := by
  dsimp only
  obtain ⟨o1, o2, hA, -⟩ := open_key env hs0 hsec hk hp seed sd2 cl count direct CMD_READ address c0.q.userLevel (by decide) hd ha hlv hk16
  rw [client_read_begin c0 hc0 sv direct address count osize signed raw hcount ha]
  dsimp only
  rw [client_answers_seed env (cWaitSeed c0 sv direct address count osize signed raw) sv direct seed hd hseed rfl rfl rfl hcount hck]
  refine ⟨rfl, o1, ?_, rfl, o2, hA⟩
  rw [hkeys]
  rfl

/-- C17, READ of 1..7 bytes WITH seed/key, the whole transaction (any seed, key functions that agree on it): the
    handshake of `c17_seedkey_handshake`, then exactly the run of `c17_read_short`; the application is consulted once,
    after the right key, with key and seed; the client's call returns exactly the served bytes; both nodes are clean -/
theorem c17_read_short_seedkey (env : Env) (c0 s0 : Node) (hc0 : Clean c0) (hs0 : Clean s0) (hsec : s0.seedSecurity = true)
    (hk : s0.s.hasKey = true) (hp : s0.hasProceed = true) (hck : c0.q.hasKey = true)
    (cl sv direct address count osize seed sd2 sd3 e x : Nat) (signed raw : Bool) (d : List Nat)
    (hcount : count ≠ 0) (ha : address < 2 ^ 32) (hd : direct < 16) (hlv : c0.q.userLevel < 2 ^ 16) (hseed : seed < 2 ^ 16)
    (hkeys : env.ckey seed = env.skey seed) (hk16 : env.skey seed < 2 ^ 16) (hd7 : d.length ≤ 7) :
    let rs1 := deliver env s0 seed true ⟨PGN_DM14, cl, openDm14 count direct CMD_READ address c0.q.userLevel⟩
    let rs2 := deliver env rs1.n sd2 true ⟨PGN_DM14, cl, openDm14 count direct CMD_READ address (env.skey seed)⟩
    let rp := respond rs2.n sd3 true d e x
    let rc := clientReadSK env c0 sv direct address count osize signed raw seed (srvDm16 d)
    let rz := deliver env rp.1 sd2 true ⟨PGN_DM14, cl, closeDm14 direct address⟩
    rs1.outs = [.tx PGN_DM15 (cl &&& 0xFF) 6 (seedDm15 direct seed)] ∧
    rs2.outs = [.proceed CMD_READ address (direct % 2) 8 count (env.skey seed) cl c0.q.userLevel seed, .notify] ∧
    rp.2 = ([.tx PGN_DM15 (cl &&& 0xFF) 6 (proceedDm15 direct count), .tx PGN_DM16 (cl &&& 0xFF) 7 (srvDm16 d),
             .tx PGN_DM15 (cl &&& 0xFF) 6 (opcDm15 direct)], .none) ∧
    rc.2.1 = [.tx PGN_DM14 (sv &&& 0xFF) 6 (openDm14 count direct CMD_READ address c0.q.userLevel),
              .tx PGN_DM14 (sv &&& 0xFF) 6 (openDm14 count direct CMD_READ address (env.skey seed)),
              .tx PGN_DM14 (sv &&& 0xFF) 6 (closeDm14 direct address)] ∧
    rc.2.2 = readResult osize signed raw d ∧ Clean rc.1 ∧
    rz.outs = [] ∧ rz.err = none ∧ Clean rz.n := by
  dsimp only
  obtain ⟨o1, o2, hA, hK⟩ := open_key env hs0 hsec hk hp seed sd2 cl count direct CMD_READ address c0.q.userLevel (by decide) hd ha hlv hk16
  obtain ⟨p1, hC, hK'⟩ := serve_read_short sd3 hA hK d hd7 e x
  obtain ⟨c1, c2, c3⟩ := client_read_sk env c0 hc0 hck sv direct address count osize signed raw seed (srvDm16 d) d hcount ha hd hseed
    (srvDm16_length d) (srvDm16_payload d (by omega))
  obtain ⟨z1, z2, z3⟩ := close_clean env hs0 sd2 direct true hC hK'
  exact ⟨o1, o2, p1, hkeys ▸ c1, c2, c3, z1, z2, z3⟩

/-- C17, WRITE WITH seed/key, the whole transaction (any seed, key functions that agree on it): the handshake of
    `c17_seedkey_handshake`, then exactly the run of `c17_write`; the application is consulted once, after the right key,
    with key and seed; it receives exactly the bytes of the client's values; both nodes are clean afterwards -/
theorem c17_write_seedkey (env : Env) (c0 s0 : Node) (hc0 : Clean c0) (hs0 : Clean s0) (hsec : s0.seedSecurity = true)
    (hk : s0.s.hasKey = true) (hp : s0.hasProceed = true) (hck : c0.q.hasKey = true)
    (cl sv direct address osize seed sd2 sd3 e x : Nat) (values dd : List Nat)
    (hv : ∀ v ∈ values, v < 256 ^ osize) (hne : values ≠ []) (hbytes : values.length * osize ≤ 255)
    (ha : address < 2 ^ 32) (hd : direct < 16) (hlv : c0.q.userLevel < 2 ^ 16) (hseed : seed < 2 ^ 16)
    (hkeys : env.ckey seed = env.skey seed) (hk16 : env.skey seed < 2 ^ 16) :
    let rs1 := deliver env s0 seed true ⟨PGN_DM14, cl, openDm14 values.length direct CMD_WRITE address c0.q.userLevel⟩
    let rs2 := deliver env rs1.n sd2 true ⟨PGN_DM14, cl, openDm14 values.length direct CMD_WRITE address (env.skey seed)⟩
    let rp := respond rs2.n sd3 true dd e x
    let rc := clientWriteSK env c0 sv direct address osize values seed
    let rw := deliver env rp.1 sd2 true ⟨PGN_DM16, cl, cliDm16 (valuesToBytes osize values)⟩
    let rr := respondResume rw.n false
    let rz := deliver env rr.1 sd2 true ⟨PGN_DM14, cl, closeDm14 direct address⟩
    rs1.outs = [.tx PGN_DM15 (cl &&& 0xFF) 6 (seedDm15 direct seed)] ∧
    rs2.outs = [.proceed CMD_WRITE address (direct % 2) 8 values.length (env.skey seed) cl c0.q.userLevel seed, .notify] ∧
    rp.2 = ([.tx PGN_DM15 (cl &&& 0xFF) 6 (proceedDm15 direct values.length)], .blocked) ∧
    rw.outs = [.tx PGN_DM15 (cl &&& 0xFF) 6 (opcDm15 direct)] ∧ rw.err = none ∧
    rr.2 = .data (valuesToBytes osize values) ∧
    rc.2.1 = [.tx PGN_DM14 (sv &&& 0xFF) 6 (openDm14 values.length direct CMD_WRITE address c0.q.userLevel),
              .tx PGN_DM14 (sv &&& 0xFF) 6 (openDm14 values.length direct CMD_WRITE address (env.skey seed)),
              .tx PGN_DM16 (sv &&& 0xFF) 6 (cliDm16 (valuesToBytes osize values)),
              .tx PGN_DM14 (sv &&& 0xFF) 6 (closeDm14 direct address)] ∧
    rc.2.2 = .none ∧ Clean rc.1 ∧
    rz.outs = [] ∧ rz.err = none ∧ Clean rz.n := by
  dsimp only
  obtain ⟨o1, o2, hA, hK⟩ := open_key env hs0 hsec hk hp seed sd2 cl values.length direct CMD_WRITE address c0.q.userLevel (by decide)
    hd ha hlv hk16
  obtain ⟨p1, w1, w2, w3, hC, hK'⟩ := serve_write env sd2 sd3 true hA hK dd
    (valuesToBytes osize values) (by rw [valuesToBytes_length]; exact hbytes) e x
  obtain ⟨c1, c2, c3⟩ := client_write_sk env c0 hc0 hck sv direct address osize values seed hv hne ha hd hseed
  obtain ⟨z1, z2, z3⟩ := close_clean env hs0 sd2 direct true hC hK'
  exact ⟨o1, o2, p1, w1, w2, w3, hkeys ▸ c1, c2, c3, z1, z2, z3⟩

/-- C17, READ of 8..255 bytes WITH seed/key, the whole transaction: the handshake, then exactly the run of `c17_read_long`
    (multi-packet DM16, the transport's acknowledgement, operation-complete); the client's call returns exactly the served
    bytes; both nodes are clean afterwards -/
theorem c17_read_long_seedkey (env : Env) (c0 s0 : Node) (hc0 : Clean c0) (hs0 : Clean s0) (hsec : s0.seedSecurity = true)
    (hk : s0.s.hasKey = true) (hp : s0.hasProceed = true) (hck : c0.q.hasKey = true)
    (cl sv direct address count osize seed sd2 sd3 e x : Nat) (signed raw : Bool) (d ack : List Nat)
    (hcount : count ≠ 0) (ha : address < 2 ^ 32) (hd : direct < 16) (hlv : c0.q.userLevel < 2 ^ 16) (hseed : seed < 2 ^ 16)
    (hkeys : env.ckey seed = env.skey seed) (hk16 : env.skey seed < 2 ^ 16)
    (hd8 : 7 < d.length) (hd255 : d.length ≤ 255) (hack : 1 ≤ ack.length) :
    let rs1 := deliver env s0 seed true ⟨PGN_DM14, cl, openDm14 count direct CMD_READ address c0.q.userLevel⟩
    let rs2 := deliver env rs1.n sd2 true ⟨PGN_DM14, cl, openDm14 count direct CMD_READ address (env.skey seed)⟩
    let rp := respond rs2.n sd3 true d e x
    let ra := deliver env rp.1 sd2 true ⟨PGN_DM16, cl, ack⟩
    let rc := clientReadSK env c0 sv direct address count osize signed raw seed (srvDm16 d)
    let rz := deliver env ra.n sd2 true ⟨PGN_DM14, cl, closeDm14 direct address⟩
    rs1.outs = [.tx PGN_DM15 (cl &&& 0xFF) 6 (seedDm15 direct seed)] ∧
    rs2.outs = [.proceed CMD_READ address (direct % 2) 8 count (env.skey seed) cl c0.q.userLevel seed, .notify] ∧
    rp.2 = ([.tx PGN_DM15 (cl &&& 0xFF) 6 (proceedDm15 direct count), .tx PGN_DM16 (cl &&& 0xFF) 7 (srvDm16 d)], .none) ∧
    ra.outs = [.tx PGN_DM15 (cl &&& 0xFF) 6 (opcDm15 direct)] ∧ ra.err = none ∧
    rc.2.1 = [.tx PGN_DM14 (sv &&& 0xFF) 6 (openDm14 count direct CMD_READ address c0.q.userLevel),
              .tx PGN_DM14 (sv &&& 0xFF) 6 (openDm14 count direct CMD_READ address (env.skey seed)),
              .tx PGN_DM14 (sv &&& 0xFF) 6 (closeDm14 direct address)] ∧
    rc.2.2 = readResult osize signed raw d ∧ Clean rc.1 ∧
    rz.outs = [] ∧ rz.err = none ∧ Clean rz.n := by
  dsimp only
  obtain ⟨o1, o2, hA, hK⟩ := open_key env hs0 hsec hk hp seed sd2 cl count direct CMD_READ address c0.q.userLevel (by decide) hd ha hlv hk16
  obtain ⟨p1, a1, a2, hC, hK'⟩ := serve_read_long env sd2 sd3 true hA hK d ack hd8 hack e x
  obtain ⟨c1, c2, c3⟩ := client_read_sk env c0 hc0 hck sv direct address count osize signed raw seed (srvDm16 d) d hcount ha hd hseed
    (srvDm16_length d) (srvDm16_payload d hd255)
  obtain ⟨z1, z2, z3⟩ := close_clean env hs0 sd2 direct true hC hK'
  exact ⟨o1, o2, p1, a1, a2, hkeys ▸ c1, c2, c3, z1, z2, z3⟩

/-- a client and a server (without seed/key) between transactions -/
structure Ready (c s : Node) : Prop where
  cClean : Clean c
  sClean : Clean s
  sec : s.seedSecurity = false
  hp : s.hasProceed = true
  hk : s.s.hasKey = false
  lvl : c.q.userLevel < 2 ^ 16

/-- one transaction: what the client asks and what the serving application answers -/
inductive Tx where
  | read (direct address count osize : Nat) (signed raw : Bool) (d ack : List Nat) (seed seed' e x : Nat)
  | write (direct address osize : Nat) (values dd : List Nat) (seed seed' e x : Nat)

def Tx.ok : Tx → Prop
  | .read direct address count _ _ _ d ack _ _ _ _ =>
      count ≠ 0 ∧ address < 2 ^ 32 ∧ direct < 16 ∧ d.length ≤ 255 ∧ 1 ≤ ack.length
  | .write direct address osize values _ _ _ _ _ =>
      (∀ v ∈ values, v < 256 ^ osize) ∧ values ≠ [] ∧ values.length * osize ≤ 255 ∧ address < 2 ^ 32 ∧ direct < 16

/-- the two nodes after the transaction (the PDU flow of `c17_read_short` / `c17_read_long` / `c17_write`) -/
def Tx.run (env : Env) (cl sv : Nat) (c s : Node) : Tx → Node × Node
  | .read direct address count osize signed raw d ack seed seed' e x =>
    let rq := deliver env s seed true ⟨PGN_DM14, cl, openDm14 count direct CMD_READ address c.q.userLevel⟩
    let rp := respond rq.n seed' true d e x
    let sEnd := if d.length ≤ 7 then rp.1 else (deliver env rp.1 seed true ⟨PGN_DM16, cl, ack⟩).n
    ((clientRead env c sv direct address count osize signed raw (srvDm16 d)).1,
     (deliver env sEnd seed true ⟨PGN_DM14, cl, closeDm14 direct address⟩).n)
  | .write direct address osize values dd seed seed' e x =>
    let rq := deliver env s seed true ⟨PGN_DM14, cl, openDm14 values.length direct CMD_WRITE address c.q.userLevel⟩
    let rp := respond rq.n seed' true dd e x
    let rw := deliver env rp.1 seed true ⟨PGN_DM16, cl, cliDm16 (valuesToBytes osize values)⟩
    ((clientWrite env c sv direct address osize values).1,
     (deliver env (respondResume rw.n false).1 seed true ⟨PGN_DM14, cl, closeDm14 direct address⟩).n)

theorem cfg_run (env : Env) (cl sv : Nat) (c s : Node) (t : Tx) :
    cfg (t.run env cl sv c s).1 = cfg c ∧ cfg (t.run env cl sv c s).2 = cfg s := by
  cases t <;>
    simp only [Tx.run, clientRead, clientWrite, cfg_clientResume, cfg_deliver, cfg_read, cfg_write, cfg_respond,
      cfg_respondResume, apply_ite cfg, ite_self, and_self]

theorem tx_preserves_ready (env : Env) (cl sv : Nat) (c s : Node) (t : Tx) (h : Ready c s) (ht : t.ok) :
    Ready (t.run env cl sv c s).1 (t.run env cl sv c s).2 := by
  obtain ⟨hc, hs, hsec, hp, hk, hlv⟩ := h
  -- `Ready` is `Clean` for both nodes plus facts about `cfg`, which no step changes
  obtain ⟨h1, h2⟩ := cfg_run env cl sv c s t
  simp only [cfg, Prod.mk.injEq] at h1 h2
  obtain ⟨-, -, -, -, hlvl⟩ := h1            -- cfg = (seedSecurity, hasProceed, s.hasKey, q.hasKey, q.userLevel)
  obtain ⟨hsec', hp', hk', -, -⟩ := h2
  suffices Clean (t.run env cl sv c s).1 ∧ Clean (t.run env cl sv c s).2 from
    { cClean := this.1, sClean := this.2, sec := hsec' ▸ hsec, hp := hp' ▸ hp, hk := hk' ▸ hk, lvl := hlvl ▸ hlv }
  cases t with
  | read direct address count osize signed raw d ack seed seed' e x =>
    obtain ⟨t1, t2, t3, t4, t5⟩ := ht
    by_cases h7 : d.length ≤ 7
    · obtain ⟨-, -, -, -, -, hcc, -, -, hsc⟩ :=
        c17_read_short env c s hc hs hsec hp hk cl sv direct address count osize signed raw d seed seed' e x t1 t2 t3 hlv h7
      simp only [Tx.run, if_pos h7]
      exact ⟨hcc, hsc⟩
    · obtain ⟨-, -, -, -, -, -, -, hcc, -, -, hsc⟩ :=
        c17_read_long env c s hc hs hsec hp hk cl sv direct address count osize signed raw d ack seed seed' e x t1 t2 t3 hlv
          (by omega) t4 t5
      simp only [Tx.run, if_neg h7]
      exact ⟨hcc, hsc⟩
  | write direct address osize values dd seed seed' e x =>
    obtain ⟨t1, t2, t3, t4, t5⟩ := ht
    obtain ⟨-, -, -, -, -, -, -, -, hcc, -, -, hsc⟩ :=
      c17_write env c s hc hs hsec hp hk cl sv direct address osize values dd seed seed' e x t1 t2 t3 t4 t5 hlv
    simp only [Tx.run]
    exact ⟨hcc, hsc⟩

/-- C17, SEVERAL TRANSACTIONS BACK TO BACK on the same objects (any mix of reads of 1..255 bytes and writes, any
    addresses, sizes, signedness): by induction every transaction starts from clean nodes, so each one returns / stores
    exactly its data (`c17_read_short`, `c17_read_long`, `c17_write` apply to each) and the pair is clean at the end -/
theorem c17_back_to_back (env : Env) (cl sv : Nat) (ts : List Tx) (c s : Node) (h : Ready c s) (hts : ∀ t ∈ ts, t.ok) :
    Ready (ts.foldl (fun cs t => t.run env cl sv cs.1 cs.2) (c, s)).1 (ts.foldl (fun cs t => t.run env cl sv cs.1 cs.2) (c, s)).2 := by
  exact List.foldlRecOn ts _ (motive := fun cs : Node × Node => Ready cs.1 cs.2) h
    fun cs hcs t ht => tx_preserves_ready env cl sv cs.1 cs.2 t hcs (hts t ht)

/-- NON-VACUITY: the initial nodes are `Ready`, and a concrete read of two 16-bit objects runs as stated -/
example : Ready {} { hasProceed := true } := ⟨⟨rfl, rfl, rfl, rfl, rfl, rfl, rfl, rfl, rfl, rfl, rfl⟩, ⟨rfl, rfl, rfl, rfl, rfl, rfl, rfl, rfl, rfl, rfl, rfl⟩, rfl, rfl, rfl, by decide⟩
example : (clientRead ⟨id, id⟩ {} 0x42 1 0x92000003 2 2 true false (srvDm16 [0x34, 0x12, 0xFF, 0xFF])).2.2 = .values [0x1234, -1] := by decide

end J1939.Props.C17
