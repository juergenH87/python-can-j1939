/-
  C13 — A controller application sends application data only from an address it holds.
  Model/Ca.lean (tied to controller_application.py by correspondence); histories = arbitrary sequences of claim-timer
  firings and received address-claim frames (any source address, any NAME bytes) — induction over the history.
-/
import J1939.Lemmas.Ca
namespace J1939.Props.C13
open J1939 J1939.Gen J1939.Ca

/-- GUARD: without an address (any state but NORMAL) send_message, send_pgn and send_request (for any PGN but the
    address-claim PGN) raise and put nothing on the bus -/
theorem c13_guard (c : Ca) (h : c.state ≠ NORMAL) (prio pgn dest : Nat) (data : List Nat) :
    sendMessage c prio pgn data = none ∧ sendPgnSa c = none ∧ (pgn ≠ Const.PGN.ADDRESSCLAIM → sendRequest c pgn dest = none) := by
  exact ⟨by simp [sendMessage, h], by simp [sendPgnSa, h], fun hp => by simp [sendRequest, h, hp]⟩

/-- the one exception: the request for address claim goes out from the null address 254 -/
theorem c13_request_for_claim_from_null (c : Ca) (h : c.state ≠ NORMAL) (dest : Nat) :
    ∃ pf ps prio data, sendRequest c Const.PGN.ADDRESSCLAIM dest = some (254, pf, ps, prio, data) := by
  simp [sendRequest, h]

/-- SOURCE ADDRESS: in state NORMAL every frame of the three entry points carries exactly the held address -/
theorem c13_source_address (c : Ca) (a : Nat) (h : c.state = NORMAL) (ha : c.addr = some a) (prio pgn dest : Nat) (data : List Nat) :
    sendMessage c prio pgn data = some { id := MessageId.can_id (MessageId.ofFields prio pgn a), ext := true, data := data } ∧
    sendPgnSa c = some a ∧ (∃ pf ps pr d, sendRequest c pgn dest = some (a, pf, ps, pr, d)) := by
  exact ⟨by simp [sendMessage, h, ha], by simp [sendPgnSa, h, ha], by simp [sendRequest, h, ha]⟩

/-- invariant: an operational CA holds exactly the address it announced -/
def Inv (c : Ca) : Prop := c.state = NORMAL → c.addr = some c.announced

theorem c13_inv_new (name : Name) (pref : Option Nat) (bypass : Bool) : Inv (Ca.new name pref bypass) := by
  unfold Inv Ca.new
  cases bypass <;> cases pref <;> simp

theorem c13_inv_claimAsync (c : Ca) (h : Inv c) : Inv (claimAsync c).1 := by
  refine claimAsync_cases (P := fun r => Inv r.1) c ?_ ?_ ?_ h
  all_goals simp [Inv]

theorem c13_inv_addressClaim (c : Ca) (sa : Nat) (data : List Nat) (h : Inv c) : Inv (processAddressClaim c sa data).1 := by
  refine pac_cases (P := fun r => Inv r.1) c sa data h (fun _ => h) ?_ ?_
  all_goals simp [Inv]

/-- a history of timer firings and received claims -/
inductive Ev where
  | timer
  | claim (sa : Nat) (data : List Nat)

def run (c : Ca) : List Ev → Ca
  | [] => c
  | .timer :: es => run (claimAsync c).1 es
  | .claim sa d :: es => run (processAddressClaim c sa d).1 es

theorem run_induction {P : Ca → Prop} (timer : ∀ c, P c → P (claimAsync c).1)
    (claim : ∀ c sa d, P c → P (processAddressClaim c sa d).1) (c : Ca) (hist : List Ev) (h : P c) : P (run c hist) := by
  induction hist generalizing c with
  | nil => exact h
  | cons e es ih =>
    cases e with
    | timer => exact ih _ (timer c h)
    | claim sa d => exact ih _ (claim c sa d h)

theorem c13_normal_has_address (name : Name) (pref : Option Nat) (bypass : Bool) (hist : List Ev) :
    Inv (run (Ca.new name pref bypass) hist) :=
  run_induction c13_inv_claimAsync c13_inv_addressClaim _ hist (c13_inv_new name pref bypass)

/-- NEVER OPERATIONAL AT THE NULL ADDRESS (after the repair of D28): a CA whose preferred address is a real address
    (≤ 253) never announces, waits at, or holds an address above 253 — whatever it loses, however often -/
def InvRange (c : Ca) : Prop :=
  (∀ p, c.preferred = some p → p ≤ 253) ∧ ((c.state = WAIT_VETO ∨ c.state = NORMAL) → c.announced ≤ 253)

theorem c13_range_new (name : Name) (pref : Option Nat) (bypass : Bool) (hp : ∀ p, pref = some p → p ≤ 253) :
    InvRange (Ca.new name pref bypass) := by
  cases bypass <;> cases pref
  -- with the bypass the CA starts operational at its preferred address; in every other case it starts in state NONE
  case true.some p => exact ⟨hp, fun _ => hp p rfl⟩
  all_goals exact ⟨hp, fun hs => by simp [Ca.new] at hs⟩

theorem c13_range_claimAsync (c : Ca) (h : InvRange c) : InvRange (claimAsync c).1 := by
  refine claimAsync_cases (P := fun r => InvRange r.1) c ?veto ?now ?wait h
  case veto | now => exact fun p _ hp => ⟨h.1, fun _ => h.1 p hp⟩
  case wait => exact fun hs => ⟨h.1, fun _ => h.2 (Or.inl hs)⟩

theorem c13_range_addressClaim (c : Ca) (sa : Nat) (data : List Nat) (h : InvRange c) : InvRange (processAddressClaim c sa data).1 := by
  refine pac_cases (P := fun r => InvRange r.1) c sa data h (fun _ => h) ⟨h.1, ?_⟩ (fun hr => ⟨h.1, fun _ => hr⟩)
  simp

theorem c13_never_at_null (name : Name) (pref : Option Nat) (bypass : Bool) (hp : ∀ p, pref = some p → p ≤ 253) (hist : List Ev) :
    let c := run (Ca.new name pref bypass) hist
    c.state = NORMAL → ∃ a, c.addr = some a ∧ a ≤ 253 := by
  have hrange := run_induction c13_range_claimAsync c13_range_addressClaim _ hist (c13_range_new name pref bypass hp)
  intro c hn
  exact ⟨_, c13_normal_has_address name pref bypass hist hn, hrange.2 (Or.inr hn)⟩

/-- and a CA without an address reports the null address -/
theorem c13_no_address_is_null (c : Ca) (h : c.state ≠ NORMAL) : deviceAddress c = some 254 ∧ ∀ d, d ≠ 255 → messageAcceptable c d = false := by
  exact ⟨by simp [deviceAddress, h], fun d _ => by simp [messageAcceptable, h]⟩

/-- ONLY CLAIM TRAFFIC: every frame the claim machinery originates is an address-claimed frame (priority 6, PGN 0xEEFF,
    the CA's NAME bytes) whose source is the address being announced, the held address, or the null address -/
theorem c13_only_claim_traffic (c : Ca) (sa : Nat) (data : List Nat) :
    (∀ f ∈ (claimAsync c).2.1, f = claimFrame (claimAsync c).1 (claimAsync c).1.announced) ∧
    (∀ f ∈ (processAddressClaim c sa data).2,
        f = claimFrame c Const.Addr.NULL ∨ f = claimFrame (processAddressClaim c sa data).1 (processAddressClaim c sa data).1.announced ∨
        (c.state = NORMAL ∧ ∃ a, c.addr = some a ∧ f = claimFrame c a)) := by
  refine ⟨?_, ?_⟩
  · refine claimAsync_cases (P := fun r => ∀ f ∈ r.2.1, f = claimFrame r.1 r.1.announced) c ?_ ?_ ?_ ?_
    all_goals simp [claimFrame]
  · refine pac_cases (P := fun r => ∀ f ∈ r.2, f = claimFrame c Const.Addr.NULL ∨ f = claimFrame r.1 r.1.announced ∨
        (c.state = NORMAL ∧ ∃ a, c.addr = some a ∧ f = claimFrame c a)) c sa data ?_ ?_ ?_ ?_
    · simp
    · rintro (⟨_, ha⟩ | ⟨hs, ha⟩) f hf
      · exact Or.inr (Or.inl (by rw [List.mem_singleton.mp hf, ha]))
      · exact Or.inr (Or.inr ⟨hs, sa, ha, List.mem_singleton.mp hf⟩)
    · exact fun f hf => Or.inl (List.mem_singleton.mp hf)
    · exact fun _ f hf => Or.inr (Or.inl (List.mem_singleton.mp hf))

end J1939.Props.C13
