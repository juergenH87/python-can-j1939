/-
  C04 — Address claiming yields unique addresses; the lowest NAME keeps a contested one.
  Handler-level theorems (every CA state, every received claim) about Model/Ca.lean, the network invariant and
  uniqueness at quiescence over every interleaving (Model/CaNet.lean), and the dispatch of claim frames to the CAs by
  both data link layers; settling in bounded real time is exercised by the oracle on real stacks.
-/
import J1939.Model.Dll21
import J1939.Model.CaNet
import J1939.Lemmas.Ca
import J1939.Props.C13
import J1939.Props.C15
import J1939.Lemmas.Id21
import J1939.Model.Dll22
namespace J1939.Props.C04
open J1939 J1939.Gen J1939.Ca J1939.Props.C13

/-- a received claim concerns the CA only if it is for the address the CA is at -/
theorem c04_foreign_claim_ignored (c : Ca.Ca) (sa : Nat) (data : List Nat) (h : ¬ At c sa) :
    processAddressClaim c sa data = (c, []) := pac_foreign c sa data h

/-- LEAVE ONLY FOR A LOWER NAME: a CA at `a` that receives a claim for `a` stays at `a` (and re-sends its own claim, so
    that the contender learns it lost) unless the contender's NAME is numerically smaller — so the CA with the lowest
    NAME among all contenders for `a` never leaves it -/
theorem c04_keeps_against_higher (c : Ca.Ca) (a : Nat) (data : List Nat) (hat : At c a)
    (hlow : Name.value c.name < Name.value (Name.ofBytes data)) :
    (processAddressClaim c a data).1 = c ∧ (processAddressClaim c a data).2 = [claimFrame c a] := by
  rw [pac_defend c a data hat hlow]
  exact ⟨rfl, rfl⟩

theorem c04_same_name_ignored (c : Ca.Ca) (a : Nat) (data : List Nat)
    (heq : Name.value c.name = Name.value (Name.ofBytes data)) : processAddressClaim c a data = (c, []) :=
  pac_same c a data heq

/-- LOSER BEHAVIOUR: against a lower NAME a single-address CA — and an arbitrary-address-capable one that has no
    address left to try (announced ≥ 253; repair of D28) — goes cannot-claim and says so from the null address 254; an
    arbitrary-address-capable CA with room left announces the next address and waits for a veto there; in all cases it no
    longer holds (or reports) the contested address -/
theorem c04_loser (c : Ca.Ca) (a : Nat) (data : List Nat) (hat : At c a)
    (hhigh : Name.value (Name.ofBytes data) < Name.value c.name) :
    ((c.name.arbitrary_address_capable = 0 ∨ 253 ≤ c.announced) →
        (processAddressClaim c a data).1.state = CANNOT_CLAIM ∧ (processAddressClaim c a data).1.addr = none ∧
        (processAddressClaim c a data).2 = [claimFrame c 254]) ∧
    ((c.name.arbitrary_address_capable ≠ 0 ∧ c.announced < 253) →
        (processAddressClaim c a data).1.state = WAIT_VETO ∧ (processAddressClaim c a data).1.announced = c.announced + 1 ∧
        (processAddressClaim c a data).1.addr = some 254 ∧
        (processAddressClaim c a data).2 = [claimFrame (processAddressClaim c a data).1 (c.announced + 1)]) ∧
    deviceAddress (processAddressClaim c a data).1 = some 254 := by
  refine ⟨fun hc => ?_, fun hc => ?_, ?_⟩
  · rw [pac_giveUp c a data hat hhigh hc]
    exact ⟨rfl, rfl, rfl⟩
  · rw [pac_next c a data hat hhigh hc]
    exact ⟨rfl, rfl, rfl, rfl⟩
  · -- in neither case is the CA operational afterwards, and a CA that is not reports the null address
    apply (c13_no_address_is_null _ _).1
    show (processAddressClaim c a data).1.state ≠ NORMAL
    by_cases hc : c.name.arbitrary_address_capable = 0 ∨ 253 ≤ c.announced
    · simp [pac_giveUp c a data hat hhigh hc]
    · simp [pac_next c a data hat hhigh (by omega)]

/-- the timer tick of a CA that waits for a veto makes it operational at the announced address; an operational or
    cannot-claim CA is unchanged (whatever its preferred address) -/
theorem c04_claim_progress_any (c : Ca.Ca) :
    (c.state = WAIT_VETO → (claimAsync c).1.state = NORMAL ∧ (claimAsync c).1.addr = some c.announced ∧ (claimAsync c).2.1 = []) ∧
    ((c.state = NORMAL ∨ c.state = CANNOT_CLAIM) → (claimAsync c).1 = c ∧ (claimAsync c).2.1 = []) := by
  refine ⟨fun hs => ?_, fun hs => ?_⟩
  · rw [claimAsync_wait c hs]
    exact ⟨rfl, rfl, rfl⟩
  · rw [claimAsync_idle c (by rcases hs with h | h <;> simp [h]) (by rcases hs with h | h <;> simp [h])]
    exact ⟨rfl, rfl⟩

/-- BECOMING OPERATIONAL: a started CA with a preferred address announces it at its first timer tick — operational at
    once in the immediate range (0..127, 248..253), waiting one veto period (250 ms) in 128..247 — and turns
    operational at the tick after an unvetoed wait; once operational or cannot-claim the tick changes nothing -/
theorem c04_claim_progress (c : Ca.Ca) (p : Nat) (hp : c.preferred = some p) :
    (c.state = NONE → (p > 127 ∧ p < 248) →
        (claimAsync c).1.state = WAIT_VETO ∧ (claimAsync c).1.announced = p ∧ (claimAsync c).2.2 = Const.Claim.VETO ∧
        (claimAsync c).2.1 = [claimFrame (claimAsync c).1 p]) ∧
    (c.state = NONE → ¬ (p > 127 ∧ p < 248) →
        (claimAsync c).1.state = NORMAL ∧ (claimAsync c).1.addr = some p ∧ (claimAsync c).2.1 = [claimFrame (claimAsync c).1 p]) ∧
    (c.state = WAIT_VETO → (claimAsync c).1.state = NORMAL ∧ (claimAsync c).1.addr = some c.announced ∧ (claimAsync c).2.1 = []) ∧
    ((c.state = NORMAL ∨ c.state = CANNOT_CLAIM) → (claimAsync c).1 = c ∧ (claimAsync c).2.1 = []) := by
  refine ⟨fun hs hr => ?_, fun hs hr => ?_, c04_claim_progress_any c⟩
  · rw [claimAsync_veto c p hs hp hr]
    exact ⟨rfl, rfl, rfl, rfl⟩
  · rw [claimAsync_now c p hs hp hr]
    exact ⟨rfl, rfl, rfl⟩

/-- ARBITRATION IS ON THE TRUE 64-BIT NAMES: what a CA reads from the 8 bytes of a received claim is exactly the value of
    the NAME whose bytes were sent (C15 round trip) — so `<` in the handler is the comparison of the CAs' NAMEs -/
theorem c04_contender_value_exact (n : Name) (h : Lemmas.Name.WF n) :
    Name.value (Name.ofBytes (Name.bytes n)) = Name.value n := by
  rw [J1939.Props.C15.c15_name_ofBytes_bytes n h]

/-- the veto period is the reflected 250 ms -/
theorem c04_veto_period : Const.Claim.VETO = 250000 := by decide

section net
open J1939.CaNet

/-- the claim a CA at `a` puts on the bus, as the others receive it -/
def claimMsg (c : Ca.Ca) (a : Nat) : Msg := { sa := a, data := Name.bytes c.name }

theorem toMsg_claimFrame (c : Ca.Ca) (a : Nat) (h : a < 256) : toMsg (claimFrame c a) = claimMsg c a :=
  congrArg (Msg.mk · (Name.bytes c.name)) (Dll21.tp_id_parse 6 238 255 a (by omega) (by omega) (by omega) h).1

theorem claimAsync_name (c : Ca.Ca) : (claimAsync c).1.name = c.name :=
  claimAsync_cases (P := fun r => r.1.name = c.name) c (fun _ _ _ => rfl) (fun _ _ _ => rfl) (fun _ => rfl) rfl

theorem pac_name (c : Ca.Ca) (sa : Nat) (d : List Nat) : (processAddressClaim c sa d).1.name = c.name :=
  pac_cases (P := fun r => r.1.name = c.name) c sa d rfl (fun _ => rfl) rfl (fun _ => rfl)

theorem claimAsync_newly_at (c : Ca.Ca) (a : Nat) (ha : a < 256) (h : At (claimAsync c).1 a) (hn : ¬ At c a) :
    claimMsg (claimAsync c).1 a ∈ (claimAsync c).2.1.map toMsg := by
  revert h
  refine claimAsync_cases (P := fun r => At r.1 a → claimMsg r.1 a ∈ r.2.1.map toMsg) c ?veto ?now ?wait (fun h => absurd h hn)
  case veto | now =>
    intro p _ _ h
    obtain rfl : p = a := by simpa [At] using h
    exact List.mem_singleton.mpr (toMsg_claimFrame c p ha).symm
  case wait =>
    intro hs h
    exact absurd (.inl ⟨hs, by simpa [At] using h⟩) hn

theorem pac_newly_at (c : Ca.Ca) (sa : Nat) (d : List Nat) (a : Nat) (ha : a < 256) (h : At (processAddressClaim c sa d).1 a)
    (hn : ¬ At c a) : claimMsg (processAddressClaim c sa d).1 a ∈ (processAddressClaim c sa d).2.map toMsg := by
  revert h
  refine pac_cases (P := fun r => At r.1 a → claimMsg r.1 a ∈ r.2.map toMsg) c sa d (fun h => absurd h hn)
    (fun _ h => absurd h hn) ?_ ?_
  · simp [At]
  · intro _ h
    obtain rfl : c.announced + 1 = a := by simpa [At] using h
    exact List.mem_singleton.mpr (toMsg_claimFrame c _ ha).symm

theorem pac_loser_leaves (c : Ca.Ca) (a : Nat) (d : List Nat) (hat : At c a) (hinv : Inv c)
    (hlow : Name.value (Name.ofBytes d) < Name.value c.name) : ¬ At (processAddressClaim c a d).1 a := by
  have ha : c.announced = a := by
    rcases hat with ⟨_, h⟩ | ⟨h1, h2⟩
    · exact h
    · exact Option.some.inj ((hinv h1).symm.trans h2)
  by_cases hc : c.name.arbitrary_address_capable = 0 ∨ 253 ≤ c.announced
  · simp [pac_giveUp c a d hat hlow hc, At]
  · simp [pac_next c a d hat hlow (by omega), At, ha]

/-- THE NETWORK INVARIANT: NAMEs are well-formed, an operational CA holds the address it announced, and for any two
    nodes that are both "at" one address (announced it and wait for a veto, or operational there) with different NAMEs,
    the claim of the lower one is on its way to the higher one, or the claim of the higher one is on its way to the
    lower one (which will answer it with its own claim) -/
structure NetInv (n : Net) : Prop where
  wf : ∀ i, Lemmas.Name.WF (n.ca i).name
  inv : ∀ i, Inv (n.ca i)
  pair : ∀ i j a, i ≠ j → a < 256 → At (n.ca i) a → At (n.ca j) a → Name.value (n.ca i).name < Name.value (n.ca j).name →
    claimMsg (n.ca i) a ∈ n.q j ∨ claimMsg (n.ca j) a ∈ n.q i

theorem NetInv.mono {n : Net} (h : NetInv n) (q' : Nat → List Msg) (hq : ∀ x m, m ∈ n.q x → m ∈ q' x) :
    NetInv { n with q := q' } :=
  ⟨h.wf, h.inv, fun i j a hij ha hi hj hlt => (h.pair i j a hij ha hi hj hlt).imp (hq j _) (hq i _)⟩

/-- one node `k` acts: its CA becomes `c'`, its queue `qk'` (unchanged, or the head `popped` removed), everybody else
    receives `ms` -/
theorem pair_preserved (n : Net) (k : Nat) (c' : Ca.Ca) (qk' ms : List Msg) (popped : Option Msg) (h : NetInv n)
    (hname : c'.name = (n.ca k).name) (hinv : Inv c')
    (hq : n.q k = (match popped with | none => qk' | some m => m :: qk'))
    (hnew : ∀ a, a < 256 → At c' a → ¬ At (n.ca k) a → claimMsg c' a ∈ ms)
    (hhigh : ∀ m, popped = some m → ∀ a j, a < 256 → At (n.ca k) a → At c' a → m = claimMsg (n.ca j) a →
      Name.value (n.ca k).name < Name.value (n.ca j).name → claimMsg c' a ∈ ms)
    (hlow : ∀ m, popped = some m → ∀ a i, a < 256 → At (n.ca k) a → m = claimMsg (n.ca i) a →
      Name.value (n.ca i).name < Name.value (n.ca k).name → ¬ At c' a) :
    NetInv { ca := fun x => if x = k then c' else n.ca x, q := fun x => if x = k then qk' else n.q x ++ ms } := by
  have hmem : ∀ m, m ∈ n.q k → popped = some m ∨ m ∈ qk' := by
    intro m hm
    rw [hq] at hm
    cases popped with
    | none => exact Or.inr hm
    | some m0 => exact (List.mem_cons.mp hm).imp (congrArg some ·.symm) id
  have hcm : ∀ a, claimMsg c' a = claimMsg (n.ca k) a := fun a => by rw [claimMsg, hname]; rfl
  refine ⟨fun i => ?_, fun i => ?_, ?_⟩
  · show Lemmas.Name.WF (if i = k then c' else n.ca i).name
    split
    · rw [hname]; exact h.wf k
    · exact h.wf i
  · show Inv (if i = k then c' else n.ca i)
    split
    · exact hinv
    · exact h.inv i
  · intro i j a hij ha hati hatj hlt
    by_cases hi : i = k
    · -- the lower NAME acts
      subst hi
      have hj : ¬ j = i := fun e => hij e.symm
      simp only [if_true, hj, if_false] at hati hatj hlt ⊢
      rw [hname] at hlt
      by_cases hold : At (n.ca i) a
      · rcases h.pair i j a hij ha hold hatj hlt with h1 | h2
        · left; rw [hcm]; exact List.mem_append_left _ h1
        · rcases hmem _ h2 with hp | hin
          · left; exact List.mem_append_right _ (hhigh _ hp a j ha hold hati rfl hlt)
          · right; exact hin
      · left; exact List.mem_append_right _ (hnew a ha hati hold)
    · by_cases hj : j = k
      · -- the higher NAME acts
        subst hj
        simp only [hi, if_false, if_true] at hati hatj hlt ⊢
        rw [hname] at hlt
        by_cases hold : At (n.ca j) a
        · rcases h.pair i j a hij ha hati hold hlt with h1 | h2
          · rcases hmem _ h1 with hp | hin
            · exact absurd hatj (hlow _ hp a i ha hold rfl hlt)
            · left; exact hin
          · right; rw [hcm]; exact List.mem_append_left _ h2
        · right; exact List.mem_append_right _ (hnew a ha hatj hold)
      · simp only [hi, hj, if_false] at hati hatj hlt ⊢
        exact (h.pair i j a hij ha hati hatj hlt).imp (List.mem_append_left _) (List.mem_append_left _)

theorem bcast_eq (q : Nat → List Msg) (i : Nat) (qi ms : List Msg) :
    bcast (fun x => if x = i then qi else q x) i ms = fun x => if x = i then qi else q x ++ ms := by
  funext x
  by_cases hx : x = i <;> simp [bcast, hx]

theorem bcast_eq' (q : Nat → List Msg) (i : Nat) (ms : List Msg) :
    bcast q i ms = fun x => if x = i then q i else q x ++ ms := by
  funext x
  by_cases hx : x = i <;> simp [bcast, hx]

/-- EVERY EVENT PRESERVES THE INVARIANT -/
theorem step_inv (n : Net) (e : CaNet.Ev) (h : NetInv n) : NetInv (step n e) := by
  cases e with
  | tick i =>
    simp only [step, bcast_eq']
    exact pair_preserved n i _ (n.q i) _ none h (claimAsync_name _) (c13_inv_claimAsync _ (h.inv i)) rfl
      (fun a ha hat hn => claimAsync_newly_at _ a ha hat hn) (fun m hm => nomatch hm) (fun m hm => nomatch hm)
  | deliver i =>
    simp only [step]
    cases hq : n.q i with
    | nil => exact h
    | cons m rest =>
      simp only [bcast_eq]
      -- a claim `claimMsg (n.ca j) a` in the queue is for `a` and carries exactly the NAME of node j
      have hv : ∀ j a, Name.value (Name.ofBytes (claimMsg (n.ca j) a).data) = Name.value (n.ca j).name :=
        fun j _ => c04_contender_value_exact _ (h.wf j)
      refine pair_preserved n i _ rest _ (some m) h (hname := pac_name _ _ _) (hinv := c13_inv_addressClaim _ _ _ (h.inv i))
        (hq := hq) (hnew := fun a ha hat hn => pac_newly_at _ _ _ a ha hat hn) (hhigh := ?high) (hlow := ?low)
      case high =>
        -- the head of the queue (`⟨⟩`: it is `m`) is the claim of a HIGHER name for `a`: node i defends, its claim goes out
        rintro _ ⟨⟩ a j ha hold _ rfl hlt
        rw [show (claimMsg (n.ca j) a).sa = a from rfl, pac_defend _ a _ hold (by rw [hv]; exact hlt)]
        exact List.mem_singleton.mpr (toMsg_claimFrame _ a ha).symm
      case low =>
        -- … of a LOWER name: node i leaves `a`
        rintro _ ⟨⟩ a j ha hold rfl hlt
        exact pac_loser_leaves (n.ca i) a _ hold (h.inv i) (by rw [hv]; exact hlt)
  | request i sa dest data =>
    simp only [step]
    split
    · refine h.mono _ fun x m hm => ?_
      unfold bcast
      split
      · exact hm
      · exact List.mem_append_left _ hm
    · exact h

/-- … hence every reachable state satisfies it -/
theorem run_inv (n : Net) (es : List CaNet.Ev) (h : NetInv n) : NetInv (CaNet.run n es) := by
  induction es generalizing n with
  | nil => exact h
  | cons e es ih => exact ih _ (step_inv n e h)

/-- a network in which nobody has started claiming yet (any number of nodes, any NAMEs, any preferred addresses,
    arbitrary-address-capable or not) -/
def Fresh (n : Net) : Prop :=
  (∀ i, (n.ca i).state = NONE) ∧ (∀ i, Lemmas.Name.WF (n.ca i).name) ∧ ∀ i, n.q i = []

theorem fresh_inv (n : Net) (h : Fresh n) : NetInv n := by
  obtain ⟨h1, h2, _⟩ := h
  refine ⟨h2, fun i hn => ?_, fun i j a _ _ hat => ?_⟩
  · simp [h1 i] at hn
  · simp [At, h1 i] at hat

/-- UNIQUE ADDRESSES AT QUIESCENCE (network level): start from any network in which nobody has claimed yet; let claim
    timers fire, claims be delivered (per-receiver bus order) and requests for address claimed be answered in ANY
    interleaving, for any number of nodes.  Whenever all claims on the bus have been handled, two different nodes that
    are both "at" the same address — operational there, or waiting for a veto on it — have the same NAME; with pairwise
    different NAMEs (the property's premise) no two CAs hold, or are about to hold, the same address -/
theorem c04_unique_at_quiescence (n0 : Net) (h0 : Fresh n0) (es : List CaNet.Ev) (i j a : Nat) (hij : i ≠ j) (ha : a < 256)
    (hquiet : ∀ k, (CaNet.run n0 es).q k = [])
    (hi : At ((CaNet.run n0 es).ca i) a) (hj : At ((CaNet.run n0 es).ca j) a) :
    Name.value ((CaNet.run n0 es).ca i).name = Name.value ((CaNet.run n0 es).ca j).name := by
  have hinv := run_inv n0 es (fresh_inv n0 h0)
  generalize CaNet.run n0 es = n at hquiet hi hj hinv ⊢
  -- with every queue empty, `pair` leaves no room for two nodes at `a` with a lower and a higher NAME
  have hnlt : ∀ i j, i ≠ j → At (n.ca i) a → At (n.ca j) a → ¬ Name.value (n.ca i).name < Name.value (n.ca j).name := by
    intro i j hij hi hj hlt
    rcases hinv.pair i j a hij ha hi hj hlt with h | h
    · rw [hquiet j] at h; cases h
    · rw [hquiet i] at h; cases h
  exact Nat.le_antisymm (Nat.le_of_not_lt (hnlt j i hij.symm hj hi)) (Nat.le_of_not_lt (hnlt i j hij hi hj))

/-- the premises are satisfiable: a fresh network of any size exists -/
example : Fresh { ca := fun k => Ca.new (Name.ofValue (k % 1000)) (some 128) false, q := fun _ => [] } :=
  ⟨fun _ => rfl, fun _ => Lemmas.name_ofValue_wf _, fun _ => rfl⟩

/-- THE LOWEST NAME KEEPS A CONTESTED ADDRESS (network level): a node that is "at" address `a` is still at `a` after ANY
    event of the network, unless the event is the node itself handling a claim for `a` from a numerically LOWER NAME -/
theorem c04_at_kept_by_step (n : Net) (h : NetInv n) (e : CaNet.Ev) (i a : Nat) (hat : At (n.ca i) a)
    (hnolower : ∀ m rest, e = .deliver i → n.q i = m :: rest → m.sa = a →
      Name.value (n.ca i).name ≤ Name.value (Name.ofBytes m.data)) :
    At ((step n e).ca i) a := by
  cases e with
  | tick k =>
    simp only [step]
    split
    · subst i
      rcases hat with ⟨hs, ha⟩ | ⟨hs, ha⟩
      · rw [claimAsync_wait _ hs]; exact Or.inr ⟨rfl, congrArg some ha⟩
      · rw [claimAsync_idle _ (by simp [hs]) (by simp [hs])]; exact Or.inr ⟨hs, ha⟩
    · exact hat
  | deliver k =>
    simp only [step]
    cases hq : n.q k with
    | nil => exact hat
    | cons m rest =>
      simp only
      split
      · subst i
        by_cases hsa : m.sa = a
        · rw [hsa]
          rcases Nat.lt_or_eq_of_le (hnolower m rest rfl hq hsa) with hlt | heq
          · rw [pac_defend _ a m.data hat hlt]; exact hat
          · rw [pac_same _ a m.data heq]; exact hat
        · rw [pac_foreign _ _ _ (fun hat2 => hsa (hat2.unique hat))]; exact hat
      · exact hat
  | request k sa dest data =>
    simp only [step]
    split <;> exact hat

end net

theorem mask_claim : (60928 + 255) &&& 130816 = 60928 := by decide

theorem claim_dispatch (cfg21 : Dll21.Cfg) (s21 : Dll21.St) (cfg22 : Dll22.Cfg) (s22 : Dll22.St) (now : Nat) (acc : Nat → Bool)
    (canId : Nat) (data : List Nat)
    (h : PGN.from_message_id (MessageId.ofCanId canId) = { data_page := 0, pdu_format := 238, pdu_specific := 255 }) :
    Dll21.notify cfg21 s21 now acc canId data = { st := s21, outs := [.claim (MessageId.ofCanId canId).source_address data] } ∧
    Dll22.notify cfg22 s22 now acc canId data = { st := s22, outs := [.claim (MessageId.ofCanId canId).source_address data] } := by
  have hp2 : PGN.is_pdu2_format { data_page := 0, pdu_format := 238, pdu_specific := 255 } = false := by decide
  have hnpv : Tp21.notify_pgn_value { data_page := 0, pdu_format := 238, pdu_specific := 255 } = Const.PGN.ADDRESSCLAIM := by decide
  have hne : (Const.PGN.ADDRESSCLAIM == Const.PGN.FEFF_MULTI_PG) = false := by decide
  constructor
  · unfold Dll21.notify
    simp only [h, hp2, hnpv, addr_global_255, Bool.false_eq_true, if_false, bne_self_eq_false, Bool.false_and,
      beq_self_eq_true, if_true]
  · unfold Dll22.notify
    simp only [h, hp2, hnpv, hne, addr_global_255, Bool.false_eq_true, if_false, bne_self_eq_false, Bool.false_and,
      beq_self_eq_true, if_true]

/-- THE BUS REACHES EVERY CA: the frame `_send_address_claimed` builds (PF 238 to the global address, from any source
    address incl. 254), received by ANY stack on either data link layer, is handed on as an address claim from that
    source with its 8 bytes — whatever the receiving stack's CAs accept (`acc` arbitrary: a CA that is still waiting, has
    no address or cannot claim accepts nothing, yet sees the claim), in any state of the layer, changing nothing in it.
    This is the delivery step `CaNet.step` takes for granted. -/
theorem c04_claim_dispatch (cfg21 : Dll21.Cfg) (s21 : Dll21.St) (cfg22 : Dll22.Cfg) (s22 : Dll22.St) (now : Nat) (acc : Nat → Bool)
    (c : Ca.Ca) (a : Nat) (ha : a < 256) :
    Dll21.notify cfg21 s21 now acc (claimFrame c a).id (claimFrame c a).data = { st := s21, outs := [.claim a (Name.bytes c.name)] } ∧
    Dll22.notify cfg22 s22 now acc (claimFrame c a).id (claimFrame c a).data = { st := s22, outs := [.claim a (Name.bytes c.name)] } := by
  obtain ⟨hsa, _, hpgn⟩ := Dll21.tp_id_parse 6 238 255 a (by omega) (by omega) (by omega) ha
  have := claim_dispatch cfg21 s21 cfg22 s22 now acc (claimFrame c a).id (claimFrame c a).data hpgn
  rwa [show (MessageId.ofCanId (claimFrame c a).id).source_address = a from hsa] at this
end J1939.Props.C04
