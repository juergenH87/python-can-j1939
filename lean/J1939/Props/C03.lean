/-
  C03 — Wire format interoperates with an independent SAE J1939-21 / J1939-22 implementation.
  `Model/Ref.lean` is the reference written from the standard's tables; the builders and field extractions are the
  definitions regenerated from j1939_21.py and, in the second half, j1939_22.py.
-/
import J1939.Lemmas.Seg21
import J1939.Lemmas.Wire21
import J1939.Lemmas.Trace21
import J1939.Lemmas.Mpg22
namespace J1939.Props.C03
open J1939 J1939.Gen J1939.Dll21 J1939.Lemmas J1939.Bits

/-- identifier of every TP.CM frame: priority, PF 0xEC, destination in PS, source address -/
theorem c03_cm_id (sa da prio : Nat) (hs : sa < 256) (hd : da < 256) (hp : prio < 8) (size n mx pgn : Nat) :
    (Tp21.rts sa da prio pgn size n mx).id = Ref.tpCmId prio da sa ∧
    (Tp21.cts sa da n mx pgn).id = Ref.tpCmId 7 da sa ∧ (Tp21.eom_ack sa da size n pgn).id = Ref.tpCmId 7 da sa ∧
    (Tp21.abort sa da n pgn).id = Ref.tpCmId 7 da sa ∧ (Tp21.bam sa prio pgn size n).id = Ref.tpCmId prio 255 sa ∧
    (Tp21.dt sa da []).id = Ref.tpDtId da sa :=
  ⟨pdu1_id_ref prio 236 da sa hp (by decide) hd hs, pdu1_id_ref 7 236 da sa (by decide) (by decide) hd hs,
   pdu1_id_ref 7 236 da sa (by decide) (by decide) hd hs, pdu1_id_ref 7 236 da sa (by decide) (by decide) hd hs,
   pdu1_id_ref prio 236 255 sa hp (by decide) (by decide) hs, pdu1_id_ref 7 235 da sa (by decide) (by decide) hd hs⟩

/-- data bytes of the five TP.CM frames: control byte, little-endian size, packet counts, 0xFF fill, little-endian PGN -/
theorem c03_cm_data (sa da prio size n mx nxt reason pgn : Nat) :
    (Tp21.rts sa da prio pgn size n mx).data = [16, size % 256, size / 256 % 256, n, mx] ++ Ref.pgnLE pgn ∧
    (Tp21.cts sa da n nxt pgn).data = Ref.tpCts n nxt pgn ∧
    (Tp21.eom_ack sa da size n pgn).data = [19, size % 256, size / 256 % 256, n, 255] ++ Ref.pgnLE pgn ∧
    (Tp21.bam sa prio pgn size n).data = [32, size % 256, size / 256 % 256, n, 255] ++ Ref.pgnLE pgn ∧
    (Tp21.abort sa da reason pgn).data = Ref.tpAbort reason pgn :=
  ⟨rts_data .., cts_data .., eom_ack_data .., bam_data .., abort_data ..⟩

/-- these are exactly the reference frames -/
theorem c03_cm_ref (sa da prio size n mx pgn : Nat) :
    (Tp21.rts sa da prio pgn size n mx).data = Ref.tpRts size n mx pgn ∧
    (Tp21.eom_ack sa da size n pgn).data = Ref.tpEomAck size n pgn ∧ (Tp21.bam sa prio pgn size n).data = Ref.tpBam size n pgn :=
  ⟨rts_data .., eom_ack_data .., bam_data ..⟩

/-- TP.DT: 1-based sequence number, 7 data bytes, 0xFF padding — the reference layout; always 8 bytes -/
theorem c03_dt_layout (data : List Nat) (k : Nat) :
    chunk data k = Ref.tpDt (k + 1) ((data.drop (k * 7)).take 7) ∧ (chunk data k).length = 8 :=
  ⟨chunk_ref data k, chunk_length data k⟩

/-- DECODING what a conforming peer sends: the field extraction of the receive path inverts the reference layout -/
theorem c03_decode_rts (size n mx pgn : Nat) (hs : size < 65536) (hn : n < 256) (hm : mx < 256) (hp : pgn < 16777216) :
    let d := Ref.tpRts size n mx pgn
    Tp21.cm_control d = 16 ∧ Tp21.rts_size d = size ∧ Tp21.rts_packets d = n ∧ Tp21.rts_max d = mx ∧ Tp21.cm_pgn d = pgn ∧ d.length = 8 :=
  ⟨rfl, cm_size_ref 16 size _ hs, rfl, rfl, cm_pgn_ref 16 _ _ n mx pgn hp, rfl⟩

theorem c03_decode_cts (n nxt pgn : Nat) (hx : 1 ≤ nxt) :
    let d := Ref.tpCts n nxt pgn
    Tp21.cm_control d = 17 ∧ Tp21.cts_packets d = n ∧ Tp21.cts_next d = (nxt : Int) - 1 ∧ d.length = 8 :=
  ⟨rfl, rfl, rfl, rfl⟩

/-- RESPONDER ROLE: every frame sequence a conforming originator produces for `data` — RTS, then the TP.DT frames of the
    reference layout in order (whatever windows and pacing) — is reassembled to exactly `data`, once (C01 responder trace
    over the reference frames) -/
theorem c03_responder_decodes (data : List Nat) (hlen : 0 < data.length) (mid : MessageId) (dest : Nat)
    (times : List Nat) (ht : times.length = Tp21.num_packets data.length) (s : St) (r : Rcv)
    (hr : s.rcv.get? (Tp21.buffer_hash mid.source_address dest) = some r)
    (hsize : r.messageSize = data.length) (hdata : r.data = []) (hmr : dest ≠ Const.Addr.GLOBAL → ∃ mr, r.maxRec = some mr) :
    let frames := (List.range' 0 (Tp21.num_packets data.length)).map (fun k => Ref.tpDt (k + 1) ((data.drop (k * 7)).take 7))
    deliveries (feedDt s mid dest (times.zip frames)).2 = [(mid.priority, r.pgn, mid.source_address, dest, data)] := by
  have hn := num_packets_pos data.length hlen
  have hf : (fun k => Ref.tpDt (k + 1) ((data.drop (k * 7)).take 7)) = chunk data := by
    funext k; exact (chunk_ref data k).symm
  simp only [hf]
  exact (feed_delivers data hlen mid dest _ 0 (by omega) hn times ht s r hr hsize (by rw [hdata]; rfl) hmr).1

/-- TIMING ENVELOPE (side conditions on the reflected constants): a peer that replies within 150 ms, spaces hold CTS
    by less than 0.5 s, BAM packets by at most 200 ms and TP.DT by less than 200 ms never runs into a timeout of the
    stack: T3 (wait for CTS / ack) and T2 (wait for DT after CTS) exceed 150 ms and 200 ms, T1 (between DT) exceeds
    200 ms, the hold time re-armed by a hold CTS is 0.5 s -/
theorem c03_timing_envelope :
    150000 < Const.T21.T3 ∧ 200000 < Const.T21.T2 ∧ 200000 < Const.T21.T1 ∧ 500000 ≤ Const.T21.Th := by decide

/-- J1939-22: data bytes of EVERY FD.TP.CM frame the stack builds = the reference layout; always 12 bytes, FD frame -/
theorem c03_22_cm_data (sa da ctl sess size seg b7 b8 pgn prio : Nat) :
    (Tp22.cm sa da ctl sess size seg b7 b8 pgn prio).data = Ref.fdCm ctl sess size seg b7 b8 pgn ∧
    (Tp22.cm sa da ctl sess size seg b7 b8 pgn prio).fd = true := by
  refine ⟨?_, rfl⟩
  simp only [Tp22.cm, Py.set, List.replicate, List.set_cons_zero, List.set_cons_succ, Ref.fdCm, Ref.le24, nib, and_255, shr_8, shr_16,
    List.cons_append, List.nil_append]

/-- identifiers: priority, PF 0x4D (FD.TP.CM) / 0x4E (FD.TP.DT), destination in PS, source address -/
theorem c03_22_ids (sa da prio : Nat) (hs : sa < 256) (hd : da < 256) (hp : prio < 8)
    (ctl sess size seg b7 b8 pgn dtfi : Nat) (lut d : List Nat) :
    (Tp22.cm sa da ctl sess size seg b7 b8 pgn prio).id = Ref.fdCmId prio da sa ∧
    (Tp22.dt lut sa da sess seg d dtfi).id = Ref.fdDtId da sa :=
  ⟨pdu1_id_ref prio 77 da sa hp (by decide) hd hs, pdu1_id_ref 7 78 da sa (by decide) (by decide) hd hs⟩

/-- the six named builders are the reference frame with their control code and field placement: RTS 0 (limit, ADT),
    CTS 1 (size field all ones, next segment in the segment field, grant in byte 8), EndOfMsgStatus 2, EndOfMsgACK 3,
    BAM 4 (to 255), Abort 15 (all ones, reason in byte 9) -/
theorem c03_22_builders (sa da prio sess pgn size seg mx adt n nxt reason asz : Nat) :
    (Tp22.rts prio sa da sess pgn size seg mx adt).data = Ref.fdCm 0 sess size seg mx adt pgn ∧
    (Tp22.cts sa da sess n nxt pgn).data = Ref.fdCm 1 sess 16777215 nxt n 0 pgn ∧
    (Tp22.eom_status sa da sess size seg pgn asz adt).data = Ref.fdCm 2 sess size seg asz adt pgn ∧
    (Tp22.eom_ack sa da sess size seg pgn).data = Ref.fdCm 3 sess size seg 255 255 pgn ∧
    (Tp22.bam prio sa sess pgn size seg).data = Ref.fdCm 4 sess size seg 255 0 pgn ∧
    (Tp22.abort sa da sess reason pgn).data = Ref.fdCm 15 sess 16777215 16777215 16777215 reason pgn :=
  ⟨(c03_22_cm_data ..).1, (c03_22_cm_data ..).1, (c03_22_cm_data ..).1, (c03_22_cm_data ..).1, (c03_22_cm_data ..).1,
   (c03_22_cm_data ..).1⟩

/-- DECODING what a conforming peer sends: the field extraction of the receive path inverts the reference layout -/
theorem c03_22_decode_cm (ctl sess size seg b7 b8 pgn : Nat) (hc : ctl < 16) (hs : sess < 16) (hz : size < 16777216)
    (hg : seg < 16777216) (h7 : b7 < 256) (hp : pgn < 16777216) :
    let d := Ref.fdCm ctl sess size seg b7 b8 pgn
    Tp22.cm_control d = ctl ∧ Tp22.cm_session d = sess ∧ Tp22.cm_size d = size ∧ Tp22.cm_segment d = seg ∧
    Tp22.cm_byte7 d = b7 ∧ Tp22.cm_pgn d = pgn ∧ d.length = 12 := by
  simp only [Ref.fdCm, Ref.le24, Tp22.cm_control, Tp22.cm_session, Tp22.cm_size, Tp22.cm_segment, Tp22.cm_byte7, Tp22.cm_pgn, Py.idx,
    List.cons_append, List.nil_append, List.getD_cons_zero, List.getD_cons_succ]
  exact ⟨(nib_split ctl sess hc hs).1, (nib_split ctl sess hc hs).2, le24_decode size hz, le24_decode seg hg, Nat.mod_eq_of_lt h7,
    le24_decode pgn hp, rfl⟩

/-- no entry of the reflected length table up to a legal length exceeds it (the legal lengths first: the table is
    walked for the 16 of them only, each time no further than that length) -/
theorem lut_below_legal : ∀ m < 65, J1939.Props.C11.legalFd m = true → ∀ n < m + 1, Py.idx Const.LUT_FD_DLC n ≤ m := by
  decide +kernel

/-- the reflected length table gives the SMALLEST legal CAN FD length that fits -/
theorem lut_minimal : ∀ n < 65, ∀ m < 65, J1939.Props.C11.legalFd m = true → n ≤ m → Py.idx Const.LUT_FD_DLC n ≤ m :=
  fun n _ m hm hl hnm => lut_below_legal m hm hl n (Nat.lt_succ_of_le hnm)

/-- FD.TP.DT: header (format indicator | session, 24-bit segment number), the segment's bytes, 0xFF padding up to the
    smallest legal CAN FD length; an FD frame of at most 64 bytes -/
theorem c03_22_dt_layout (sa da sess seg dtfi : Nat) (data : List Nat) (hl : data.length ≤ 60) :
    let f := Tp22.dt Const.LUT_FD_DLC sa da sess seg data dtfi
    (∃ k, f.data = Ref.fdDtHeader dtfi sess seg ++ data ++ List.replicate k 255) ∧
    J1939.Props.C11.legalFd f.data.length = true ∧ 4 + data.length ≤ f.data.length ∧
    (∀ m, J1939.Props.C11.legalFd m = true → 4 + data.length ≤ m → f.data.length ≤ m) ∧ f.fd = true := by
  intro f
  have hlen : (Ref.fdDtHeader dtfi sess seg ++ data).length = 4 + data.length := by
    rw [List.length_append]; rfl
  obtain ⟨l1, l2, l3⟩ := Dll22.lut_legal (4 + data.length) (by omega)
  -- in both branches of the builder: header, data, and padding up to the table's length
  have hf : f.data = Ref.fdDtHeader dtfi sess seg ++ data ++
      List.replicate (Py.idx Const.LUT_FD_DLC (4 + data.length) - (4 + data.length)) 255 := by
    have hbody : ∀ a b c e : Nat, Py.insert (Py.insert (Py.insert (Py.insert data 0 a) 1 b) 2 c) 3 e = [a, b, c, e] ++ data :=
      fun a b c e => rfl
    simp only [f, Tp22.dt, hbody, nib, and_255, shr_8, shr_16]
    have e : Ref.fdDtHeader dtfi sess seg ++ data = [_, _, _, _] ++ data := rfl
    rw [← e, hlen]
    by_cases h64 : 4 + data.length ≥ 60 + 4
    · have hd : 4 + data.length = 64 := by omega
      rw [if_pos (decide_eq_true h64), List.take_of_length_le (by omega), hd]
      exact (List.append_nil _).symm
    · rw [if_neg (by simpa using h64), if_neg (by simp), Py.pad, hlen]
  have hfl : f.data.length = Py.idx Const.LUT_FD_DLC (4 + data.length) := by
    rw [hf, List.length_append, hlen, List.length_replicate]; omega
  rw [hfl]
  refine ⟨⟨_, hf⟩, l3, l1, fun m hm1 hm2 => ?_, rfl⟩
  -- no entry of the table exceeds 64, so only the lengths within the table matter
  by_cases hm : m < 65
  · exact lut_minimal (4 + data.length) (by omega) m hm hm1 hm2
  · omega

/-- … and the receive path reads session and segment number back from that header -/
theorem c03_22_decode_dt (dtfi sess seg : Nat) (rest : List Nat) (hs : sess < 16) (hd : dtfi < 16) (hg : seg < 16777216) :
    Tp22.dt_session (Ref.fdDtHeader dtfi sess seg ++ rest) = sess ∧ Tp22.dt_segment (Ref.fdDtHeader dtfi sess seg ++ rest) = seg := by
  simp only [Ref.fdDtHeader, Ref.le24, Tp22.dt_session, Tp22.dt_segment, Py.idx, List.cons_append, List.nil_append,
    List.getD_cons_zero, List.getD_cons_succ]
  exact ⟨(nib_split dtfi sess hd hs).2, le24_decode seg hg⟩

end J1939.Props.C03
