/-
  C18 — DM14 serves no data without the right key, surfaces errors, and recovers.
  Model: Model/Dm14.lean (message level; tied to memory_access.py / Dm14Query.py / Dm14Server.py by lock-step
  correspondence).  Proved for the code as repaired by D16, D17, D26, D27.
-/
import J1939.Props.C17
namespace J1939.Props.C18
open J1939 J1939.Gen J1939.Dm14

def IsTx (o : Out) : Prop := ∃ pgn d pr data, o = .tx pgn d pr data
def IsConsult (o : Out) : Prop := o = .notify ∨ ∃ c ad pt l k ky sa lv sd, o = .proceed c ad pt l k ky sa lv sd

def OnlyDm15 (l : List Out) : Prop := ∀ o ∈ l, ∃ d data, o = .tx PGN_DM15 d 6 data

theorem onlyDm15_nil : OnlyDm15 [] := fun _ h => nomatch h

theorem sDm15_outs_tx {s : Server} {seedIn length direct status : Nat} {st : SState} {count : Nat} {sa : Option Nat} {error edcp : Nat} :
    OnlyDm15 (sDm15 s seedIn length direct status st count sa error edcp).2.1 := by
  unfold sDm15
  cases sa with
  | none => cases st <;> exact onlyDm15_nil
  | some a =>
    cases st with
    | waitKey | sendProceed | sendOperComplete | sendError => exact fun o ho => ⟨_, _, List.mem_singleton.mp ho⟩
    | _ => exact onlyDm15_nil

/-- in every branch its outputs are none or those of `sDm15` -/
theorem sParse_outs_dm15 (n : Node) (seedIn : Nat) (p : Pdu) : OnlyDm15 (sParseDm14 n seedIn p).outs := by
  unfold sParseDm14
  refine ite_ind onlyDm15_nil (ite_ind onlyDm15_nil (ite_ind sDm15_outs_tx ?_))
  cases n.s.state with
  | idle => exact ite_ind sDm15_outs_tx onlyDm15_nil
  | _ => exact onlyDm15_nil

theorem sParse16_outs_dm15 (n : Node) (seedIn : Nat) (p : Pdu) : OnlyDm15 (sParseDm16 n seedIn p).outs := by
  unfold sParseDm16
  exact ite_ind onlyDm15_nil (ite_ind onlyDm15_nil sDm15_outs_tx)

theorem fRefuse_outs (n : Node) (seedIn : Nat) (p : Pdu) (code : Nat) (fr : Bool) :
    (fRefuse n seedIn p code fr).outs = (sParseDm14 { n with s := { n.s with error := code, busy := true } } seedIn p).outs := by
  unfold fRefuse
  dsimp only
  split <;> rfl

/-- the step in which the DM14 with the right key arrives -/
def KeyStep (env : Env) (n : Node) (seedIn : Nat) (p : Pdu) : Prop :=
  n.f = .requestStarted ∧ (sParseDm14 n seedIn p).n.s.state = .sendProceed ∧
  env.skey (sParseDm14 n seedIn p).n.s.seed = (sParseDm14 n seedIn p).n.s.key

/-- what the facade may emit: DM15 PDUs, and the consultation of the application — which, with a seed/key algorithm
    configured, comes only in the key step -/
def Gated (env : Env) (n : Node) (seedIn : Nat) (p : Pdu) (l : List Out) : Prop :=
  ∀ o ∈ l, (∃ d data, o = .tx PGN_DM15 d 6 data) ∨ (IsConsult o ∧ (n.seedSecurity = true → KeyStep env n seedIn p))

section Gate
variable {env : Env} {n : Node} {seedIn : Nat} {p : Pdu}

theorem gated_dm15 {l : List Out} (h : OnlyDm15 l) : Gated env n seedIn p l := fun o ho => .inl (h o ho)

theorem gated_nil : Gated env n seedIn p [] := gated_dm15 onlyDm15_nil

theorem gated_append {l₁ l₂ : List Out} (h₁ : Gated env n seedIn p l₁) (h₂ : Gated env n seedIn p l₂) :
    Gated env n seedIn p (l₁ ++ l₂) :=
  List.forall_mem_append.mpr ⟨h₁, h₂⟩

/-- the consultation, wherever the gate is open: the callback and the notification, or the callback and the refusal -/
theorem fConsult_outs (m : Node) (accept : Bool) (k sd : Nat) (fr : Bool) (hg : n.seedSecurity = true → KeyStep env n seedIn p) :
    Gated env n seedIn p (fConsult m seedIn accept p k sd fr).outs := by
  unfold fConsult
  extract_lets s call r
  have consults : ∀ o l, IsConsult o → Gated env n seedIn p l → Gated env n seedIn p (o :: l) :=
    fun o l ho hl => List.forall_mem_cons.mpr ⟨.inr ⟨ho, hg⟩, hl⟩
  have hcall : IsConsult call := .inr ⟨_, _, _, _, _, _, _, _, _, rfl⟩
  refine ite_ind gated_nil (ite_ind ?_ ?_)
  · exact consults _ _ hcall (consults _ _ (.inl rfl) gated_nil)
  · exact consults _ _ hcall (gated_dm15 (fRefuse_outs .. ▸ sParse_outs_dm15 _ _ _))

theorem fListen_outs (env : Env) (n : Node) (seedIn : Nat) (accept : Bool) (p : Pdu) :
    Gated env n seedIn p (fListen env n seedIn accept p).outs := by
  unfold fListen
  -- the DM14 handler's result, and what follows it, in the states idle (`I`), requestStarted (`S`) and waitQuery (`Q`)
  extract_lets rI _ nI cI rS _ nS cS fS _ rQ
  have hI : Gated env n seedIn p rI.outs := gated_dm15 (sParse_outs_dm15 _ _ _)
  have hS : Gated env n seedIn p rS.outs := gated_dm15 (sParse_outs_dm15 _ _ _)
  have hfS : Gated env n seedIn p fS.outs := gated_dm15 (fRefuse_outs .. ▸ sParse_outs_dm15 _ _ _)
  have hQ : Gated env n seedIn p rQ.outs := gated_dm15 (sParse_outs_dm15 _ _ _)
  refine ite_ind gated_nil ?_
  cases hf : n.f with
  | idle =>
    -- the opening DM14: the application is consulted at once only when no seed/key is configured
    refine ite_ind gated_nil ?_
    cases rI.err with
    | some e => exact hI
    | none =>
      refine ite_ind' (fun hns => gated_append hI (fConsult_outs _ _ _ _ _ fun hs => ?_)) fun _ => hI
      rw [show rI.n.seedSecurity = n.seedSecurity from congrArg Prod.fst (C17.cfg_sParseDm14 ..), hs] at hns
      cases hns
  | requestStarted =>
    -- the DM14 with the key: consulted only if it is the right one, refused (DM15 only) otherwise
    cases rS.err with
    | some e => exact hS
    | none =>
      refine ite_ind' (fun hst => ite_ind (ite_ind' (fun hkey => ?right) fun _ => ?wrong) hS) fun _ => hS
      case right => exact gated_append hS (fConsult_outs _ _ _ _ _ fun _ => ⟨hf, eq_of_beq hst, eq_of_beq hkey⟩)
      case wrong => exact gated_append hS hfS
  | waitQuery => exact hQ
  | waitResponse => exact gated_nil

end Gate

/-- KEY GATE (the mechanism): with a seed/key algorithm configured, the facade hands a request to the application
    (proceed callback, notification) only in the step in which the DM14 carrying the key arrives, and only if that key
    is the configured function of the seed the server had sent -/
theorem c18_key_gate (env : Env) (n : Node) (seedIn : Nat) (accept : Bool) (p : Pdu) (hsec : n.seedSecurity = true)
    (o : Out) (ho : o ∈ (fListen env n seedIn accept p).outs) (hc : IsConsult o) :
    n.f = .requestStarted ∧ (sParseDm14 n seedIn p).n.s.state = .sendProceed ∧
    env.skey (sParseDm14 n seedIn p).n.s.seed = (sParseDm14 n seedIn p).n.s.key := by
  rcases fListen_outs env n seedIn accept p o ho with ⟨d, data, rfl⟩ | ⟨-, h⟩
  · rcases hc with h | ⟨_, _, _, _, _, _, _, _, _, h⟩ <;> cases h
  · exact h hsec

/-- NOTHING IS SERVED BY THE RECEIVE PATH: whatever arrives, the server-side handlers (facade, DM14 and DM16 handler)
    never send memory data (DM16); data and the 'proceed' answer only leave through `respond` -/
theorem c18_handlers_send_no_data (env : Env) (n : Node) (seedIn : Nat) (accept : Bool) (p : Pdu) (c : Cb)
    (hc : c = .listen ∨ c = .srv14 ∨ c = .srv16) :
    ∀ d pr data, Out.tx PGN_DM16 d pr data ∉ (runCb env n seedIn accept p c).outs := by
  intro d pr data hmem
  have no16 : ∀ x, (∃ d data, x = Out.tx PGN_DM15 d 6 data) → x ≠ Out.tx PGN_DM16 d pr data := by
    rintro x ⟨d', data', rfl⟩ h
    cases h
  rcases hc with rfl | rfl | rfl
  · rcases fListen_outs env n seedIn accept p _ hmem with h | ⟨h, -⟩
    · exact no16 _ h rfl
    · rcases h with h | ⟨_, _, _, _, _, _, _, _, _, h⟩ <;> cases h
  · exact no16 _ (sParse_outs_dm15 n seedIn p _ hmem) rfl
  · exact no16 _ (sParse16_outs_dm15 n seedIn p _ hmem) rfl

/-- `respond` serves only a request that has passed the gate: in any other facade state it sends nothing and leaves
    the node as it is -/
theorem c18_respond_guard (n : Node) (seedIn : Nat) (proceed : Bool) (data : List Nat) (error edcp : Nat)
    (h : n.f ≠ .waitResponse) : respond n seedIn proceed data error edcp = (n, [], .data data) := by
  unfold respond
  simp [h]

theorem errorDm15_is_built (s : Server) (seedIn direct status count sa e edcp : Nat) :
    sDm15 s seedIn 8 direct status .sendError count (some sa) e edcp = (s, [.tx PGN_DM15 (sa &&& 0xFF) 6 (errorDm15 direct e edcp)], none) :=
  sDm15_error s seedIn direct status count sa e edcp

/-- ERROR SURFACED, reception: an 'operation failed' DM15 carrying an error indicator (EDCP extension 6 or 7) from the
    addressed server queues, for EVERY 24-bit error code, exactly that code for the waiting caller -/
theorem c18_error_queued (env : Env) (n : Node) (direct e edcp : Nat) (he : e < 2 ^ 24) (hd : direct < 16)
    (hedcp : edcp = 6 ∨ edcp = 7) :
    qParseDm15 env n ⟨PGN_DM15, n.q.dest, errorDm15 direct e edcp⟩ =
      { n := { n with q := { n.q with dataQ := n.q.dataQ ++ [none], excQ := n.q.excQ ++ [.device n.q.dest e edcp] } } } := by
  unfold qParseDm15
  have hlen : ¬ (errorDm15 direct e edcp).length < 8 := by simp [errorDm15]
  have hedcp' : Py.idx (errorDm15 direct e edcp) 5 = edcp := rfl
  simp only [bne_self_eq_false, Bool.or_self, Bool.false_eq_true, if_false, hlen, status_failed direct e edcp,
    error_roundtrip direct e edcp he, hedcp']
  rcases hedcp with rfl | rfl <;> simp [ST_OPER_FAILED, ST_BUSY]

/-- RECOVERY, client: however a read or write ended — result, device error, no response, timeout in any phase — the
    facade and the query are idle again and no handler of the finished transaction is left behind, so the next call
    is accepted (`c18_next_call_accepted`) -/
theorem c18_client_recovers (n : Node) (timedOut : Bool) :
    (clientResume n timedOut).1.f = .idle ∧ (clientResume n timedOut).1.q.state = .idle ∧
    Cb.q15 ∉ (clientResume n timedOut).1.subs ∧ Cb.q16 ∉ (clientResume n timedOut).1.subs ∧
    (∀ c, c ≠ .q15 → c ≠ .q16 → (c ∈ (clientResume n timedOut).1.subs ↔ c ∈ n.subs)) := by
  obtain ⟨dq, xq, h⟩ := clientResume_fst n timedOut
  rw [h]
  -- `qEnd` filters q15 and q16 out of the subscriber list and touches nothing else
  simp [qEnd, unsub]
  -- left: a subscribed handler other than those two passes both filters
  exact fun c h15 h16 _ => ⟨h16, h15⟩

/-- ERROR SURFACED, the caller: with that item queued the blocked call ends by raising the device error with exactly
    the code — for a read and for a write — and the client side is clean afterwards -/
theorem c18_error_raised (n : Node) (e : Exc) (rest : List Exc) (item : Option (List Nat)) (items : List (Option (List Nat)))
    (hq : n.q.dataQ = item :: items) (hx : n.q.excQ = e :: rest) :
    (clientResume n false).2 = .raiseExc e ∧ (clientResume n false).1.f = .idle ∧ (clientResume n false).1.q.state = .idle ∧
    Cb.q15 ∉ (clientResume n false).1.subs ∧ Cb.q16 ∉ (clientResume n false).1.subs := by
  obtain ⟨r1, r2, r3, r4, -⟩ := c18_client_recovers n false
  exact ⟨by rw [clientResume_exc n item items e rest hq hx], r1, r2, r3, r4⟩

/-- the codes the server itself uses: a wrong key is answered with 0x1003 (and the application is not consulted, see
    `c18_key_gate`), a refusal by the proceed callback with 0x100, both with EDCP extension 7 -/
theorem c18_refusal_codes (n : Node) (seedIn : Nat) (p : Pdu) (code : Nat) (fr : Bool) (hp : p.pgn = PGN_DM14) (hl : 8 ≤ p.data.length)
    (h8 : n.s.length = 8) (hc : code ≠ 0) :
    (fRefuse n seedIn p code fr).outs = [.tx PGN_DM15 (p.sa &&& 0xFF) 6 (errorDm15 (Py.idx p.data 1 >>> 4) code 7)] ∧
    (fRefuse n seedIn p code fr).err = none := by
  have hcode : (code != 0) = true := by simpa using hc
  have hr := sParseDm14_rejects { n with s := { n.s with error := code, busy := true } } seedIn p hp hl h8
    ((sRejects_iff _ _).mpr (.inr (.inr rfl)))
  simp only [fRefuse, hr, hcode, if_true]
  exact ⟨trivial, trivial⟩

/-- after the refusal sequence the server side is back in its initial configuration: idle, bound to nobody, not busy,
    its own handlers unsubscribed, and (when the facade had unsubscribed itself, D26) listening again -/
theorem c18_refusal_recovers (n : Node) (seedIn : Nat) (p : Pdu) (code : Nat) (fr : Bool)
    (herr : (fRefuse n seedIn p code fr).err = none) :
    let m := (fRefuse n seedIn p code fr).n
    m.f = .idle ∧ m.s.state = .idle ∧ m.s.sa = none ∧ m.s.address = none ∧ m.s.busy = false ∧ m.s.error = 0 ∧ m.s.length = 8 ∧
    Cb.srv14 ∉ m.subs ∧ Cb.srv16 ∉ m.subs ∧ (fr = true → Cb.listen ∈ m.subs) := by
  unfold fRefuse at herr ⊢
  dsimp only at herr ⊢
  split
  · rename_i e he
    rw [he] at herr
    cases herr
  · cases fr <;> simp [sReset, unsub, sub]

/-- TIMEOUT: a caller that heard nothing at all gets "No response from server" when its timeout passes -/
theorem c18_timeout (n : Node) (h : n.q.state = .waitSeed) : (clientResume n true).2 = .raiseNoResponse := by
  unfold clientResume
  simp [h]

theorem c18_next_call_accepted (n : Node) (timedOut : Bool) (dest direct address count objSize : Nat) (signed raw : Bool)
    (hc : count ≠ 0) (ha : address < 2 ^ 32) :
    (readBegin (clientResume n timedOut).1 dest direct address count objSize signed raw).2.2 = .blocked := by
  have h := (c18_client_recovers n timedOut).1
  unfold readBegin
  simp [h, hc, Nat.not_le.mpr ha]

/-- NON-VACUITY: a server with a key function, after seed 0x1234 was issued, consults the application exactly for the
    right key ((s * 3 + 1) mod 2^16 here) and refuses the wrong one with 0x1003 -/
example :
    let env : Env := ⟨fun s => (s * 3 + 1) % 65536, id⟩
    let n0 : Node := { seedSecurity := true, hasProceed := true, s := { hasKey := true } }
    let n1 := (deliver env n0 0x1234 true ⟨PGN_DM14, 0x21, [1, 0x13, 3, 0, 0, 0x92, 7, 0]⟩).n
    (deliver env n1 0 true ⟨PGN_DM14, 0x21, [1, 0x13, 3, 0, 0, 0x92, 0x9D, 0x36]⟩).outs
      = [.proceed 1 0x92000003 1 8 1 0x369D 0x21 7 0x1234, .notify] ∧
    (deliver env n1 0 true ⟨PGN_DM14, 0x21, [1, 0x13, 3, 0, 0, 0x92, 0x9E, 0x36]⟩).outs
      = [.tx PGN_DM15 0x21 6 (errorDm15 1 0x1003 7)] := by decide

end J1939.Props.C18
