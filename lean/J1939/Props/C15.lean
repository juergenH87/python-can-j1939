/-
  C15 — Identifier and NAME codecs are exact inverses on their whole domain.
  All statements are about the definitions GENERATED from the repository's source (Gen/Codec.lean) and hold for
  every value of the quantified variables (no sampling).
-/
import J1939.Lemmas.Codec
namespace J1939.Props.C15
open J1939 J1939.Gen J1939.Lemmas J1939.Radix

/-- parse ∘ compose = the constructor's masking of the fields (identity on in-range fields) — every `p g s` -/
theorem c15_id_parse_compose (p g s : Nat) :
    MessageId.ofCanId (MessageId.can_id (MessageId.ofFields p g s)) = MessageId.ofFields p g s :=
  ofCanId_can_id _ (ofFields_wf p g s)

/-- the constructor keeps in-range fields as they are -/
theorem c15_id_fields (p g s : Nat) (hp : p < 8) (hg : g < 2^18) (hs : s < 256) :
    MessageId.ofFields p g s = { source_address := s, parameter_group_number := g, priority := p } :=
  ofFields_of_lt p g s hp hg hs

/-- compose ∘ parse = id on all 2^29 identifiers -/
theorem c15_id_compose_parse (c : Nat) (h : c < 2^29) : MessageId.can_id (MessageId.ofCanId c) = c := by
  rw [can_id_ofCanId, Nat.mod_eq_of_lt h]

/-- the composed identifier has every field at its SAE J1939-21 position -/
theorem c15_id_layout (p g s : Nat) :
    MessageId.can_id (MessageId.ofFields p g s) = Ref.canId (p % 8) (g % 2^18) (s % 256) := by
  rw [can_id_arith _ (ofFields_wf p g s), ofFields_eq]; rfl

/-- PGN value agrees with data page / PDU format / PDU specific -/
theorem c15_pgn_value (dp pf ps : Nat) :
    PGN.value (PGN.ofFields dp pf ps) = Ref.pgn (dp % 2) (pf % 256) (ps % 256) := by
  rw [pgn_value_arith _ (pgn_ofFields_wf dp pf ps), pgn_ofFields_eq]; rfl

/-- the fields read back from the numeric value -/
theorem c15_pgn_fields_of_value (dp pf ps : Nat) :
    let v := PGN.value (PGN.ofFields dp pf ps)
    Ref.field v 16 1 = dp % 2 ∧ Ref.field v 8 8 = pf % 256 ∧ Ref.field v 0 8 = ps % 256 := by
  have hd := digits_val [256, 256, 2] [ps % 256, pf % 256, dp % 2]
    ⟨Nat.mod_lt _ (by decide), Nat.mod_lt _ (by decide), Nat.mod_lt _ (by decide), trivial⟩
  rw [show val [256, 256, 2] [ps % 256, pf % 256, dp % 2] = PGN.value (PGN.ofFields dp pf ps) by
    rw [pgn_value_val _ (pgn_ofFields_wf dp pf ps), pgn_ofFields_eq]] at hd
  simp only [digits, Nat.div_div_eq_div_mul, Nat.reduceMul, List.cons.injEq, and_true] at hd
  simp only [Ref.field, Nat.reducePow, Nat.div_one]
  exact ⟨hd.2.2, hd.2.1, hd.1⟩

/-- PGN taken from an identifier = the identifier's PGN field modulo the extended-data-page bit -/
theorem c15_pgn_from_message_id (c : Nat) :
    PGN.value (PGN.from_message_id (MessageId.ofCanId c)) = (c / 256 % 2^18) % 2^17 := by
  rw [pgn_value_from_mid, ofCanId_eq]

/-- PDU1 / PDU2 classification agrees with the numeric PDU format: PDU1 ⇔ PF < 240, PDU2 ⇔ ¬PDU1 -/
theorem c15_pdu_classification (dp pf ps : Nat) :
    (PGN.is_pdu1_format (PGN.ofFields dp pf ps) = true ↔ pf % 256 < 240) ∧
    (PGN.is_pdu2_format (PGN.ofFields dp pf ps) = !PGN.is_pdu1_format (PGN.ofFields dp pf ps)) := by
  rw [pgn_ofFields_eq]
  simp only [PGN.is_pdu1_format, PGN.is_pdu2_format, ge_iff_le, Nat.zero_le, decide_true, Bool.true_and, Bool.and_eq_true,
    decide_eq_true_eq, Bool.if_false_right, Bool.and_true, ← decide_not, decide_eq_decide]
  omega

/-- NAME: value → fields → value is the identity on all 2^64 values, the reserved bit reading as 0 -/
theorem c15_name_value_ofValue (v : Nat) (h : v < 2^64) :
    Name.value (Name.ofValue v) = v - (v / 2^48 % 2) * 2^48 := by
  rw [name_value_ofValue, Nat.mod_eq_of_lt h]

/-- every field sits at the bit position SAE J1939-81 assigns -/
theorem c15_name_layout (n : Name) (h : Name.WF n) :
    Ref.nameFields (Name.value n) =
      { identity := n.identity_number, manufacturer := n.manufacturer_code, ecuInstance := n.ecu_instance,
        functionInstance := n.function_instance, function := n.function, reserved := 0,
        vehicleSystem := n.vehicle_system, vehicleSystemInstance := n.vehicle_system_instance,
        industryGroup := n.industry_group, aac := n.arbitrary_address_capable } := by
  have hd := name_digits_value n h
  simp only [name_digits, Name.digits, List.cons.injEq, and_true] at hd
  simp only [Ref.nameFields, hd, h.2.2.2.2.1]

/-- NAME: fields → value → fields is the identity on every field tuple the constructor accepts -/
theorem c15_name_ofValue_value (n : Name) (h : Name.WF n) : Name.ofValue (Name.value n) = n := by
  have hl := c15_name_layout n h
  simp only [Ref.nameFields, Ref.NameFields.mk.injEq] at hl
  simp only [name_ofValue_eq, hl]
  -- what is left is `n` field by field, its reserved bit written as 0
  rw [← h.2.2.2.2.1]

/-- a NAME built from fields: the constructor accepts exactly the in-range tuples and then value/ofValue round-trips -/
theorem c15_name_ofFields_roundtrip (a ig vsi vs f fi e m i : Nat) (n : Name)
    (h : Name.ofFields a ig vsi vs f fi e m i = some n) : Name.ofValue (Name.value n) = n :=
  c15_name_ofValue_value n ((name_ofFields_eq_some a ig vsi vs f fi e m i n).mp h).2

/-- the 8 NAME bytes are the little-endian bytes of the 64-bit value -/
theorem c15_name_bytes_le (n : Name) : Name.bytes n = le64 (Name.value n) := by
  simp only [Name.bytes, le64, Bits.and_255, Bits.shr, Nat.reducePow, Nat.div_one]

/-- bytes → NAME → bytes: identity on every 8-byte string except that the reserved bit (bit 0 of byte 7) reads as 0 -/
theorem c15_name_bytes_ofBytes (b0 b1 b2 b3 b4 b5 b6 b7 : Nat)
    (h0 : b0 < 256) (h1 : b1 < 256) (h2 : b2 < 256) (h3 : b3 < 256) (h4 : b4 < 256) (h5 : b5 < 256) (h6 : b6 < 256) (h7 : b7 < 256) :
    Name.bytes (Name.ofBytes [b0, b1, b2, b3, b4, b5, b6, b7]) = [b0, b1, b2, b3, b4, b5, b6 - b6 % 2, b7] := by
  -- `Py.fromBytesLE [b0, …]` unfolds to `val (List.replicate 8 256) [b0, …]`
  have hV : Py.fromBytesLE [b0, b1, b2, b3, b4, b5, b6, b7] < 2^64 :=
    val_lt (List.replicate 8 256) [b0, b1, b2, b3, b4, b5, b6, b7] ⟨h0, h1, h2, h3, h4, h5, h6, h7, trivial⟩
  -- the six low bytes make a number below 2^48; bit 48 of the whole is the lowest bit of what stands above them
  have split (x : Nat) : Py.fromBytesLE [b0, b1, b2, b3, b4, b5, x, b7]
      = Py.fromBytesLE [b0, b1, b2, b3, b4, b5] + 2^48 * (x + 256 * b7) :=
    val_append (List.replicate 6 256) [b0, b1, b2, b3, b4, b5] [256, 256] [x, b7] rfl
  have hlo : Py.fromBytesLE [b0, b1, b2, b3, b4, b5] < 2^48 :=
    val_lt (List.replicate 6 256) [b0, b1, b2, b3, b4, b5] ⟨h0, h1, h2, h3, h4, h5, trivial⟩
  have e : Py.fromBytesLE [b0, b1, b2, b3, b4, b5, b6, b7] - Py.fromBytesLE [b0, b1, b2, b3, b4, b5, b6, b7] / 2^48 % 2 * 2^48
      = Py.fromBytesLE [b0, b1, b2, b3, b4, b5, b6 - b6 % 2, b7] := by
    rw [split, split, Bits.clear_bit _ _ 48 hlo]
    -- the lowest bit of `b6 + 256 * b7` is that of `b6`
    rw [show 256 * b7 = 2 * (128 * b7) from Nat.mul_assoc 2 128 b7, Nat.add_mul_mod_self_left, Nat.sub_add_comm (Nat.mod_le b6 2)]
  rw [c15_name_bytes_le, name_ofBytes_eq, c15_name_value_ofValue _ hV, e, le64_eq_digits]
  exact digits_val (List.replicate 8 256) [b0, b1, b2, b3, b4, b5, b6 - b6 % 2, b7]
    ⟨h0, h1, h2, h3, h4, h5, Nat.lt_of_le_of_lt (Nat.sub_le _ _) h6, h7, trivial⟩

/-- NAME → bytes → NAME: identity on every NAME the constructor accepts -/
theorem c15_name_ofBytes_bytes (n : Name) (h : Name.WF n) : Name.ofBytes (Name.bytes n) = n := by
  rw [c15_name_bytes_le, name_ofBytes_eq, fromBytesLE_le64 _ (name_value_lt n h), c15_name_ofValue_value n h]

/-! Non-vacuity: concrete values meeting the hypotheses. -/
example : Name.WF (Name.ofValue 0x8123456789ABCDEF) := name_ofValue_wf _
example : ∃ n, Name.ofFields 1 2 3 4 5 6 7 8 9 = some n := ⟨_, rfl⟩
example : MessageId.can_id (MessageId.ofFields 6 0xFECA 0x21) = 0x18FECA21 := by decide

/-- the number a little-endian byte list denotes -/
def leVal : List Nat → Nat
  | [] => 0
  | x :: xs => x + 256 * leVal xs

/-- "less" decided from the MOST significant byte down (the list is little-endian: the tail holds the higher bytes) -/
def msbLess : List Nat → List Nat → Prop
  | x :: xs, y :: ys => msbLess xs ys ∨ (xs = ys ∧ x < y)
  | _, _ => False

theorem leVal_eq_fromBytesLE : ∀ l : List Nat, leVal l = Py.fromBytesLE l
  | [] => rfl
  | x :: xs => congrArg (x + 256 * ·) (leVal_eq_fromBytesLE xs)

theorem byte_cons_lt (x y a b : Nat) (hx : x < 256) (hy : y < 256) :
    x + 256 * a < y + 256 * b ↔ a < b ∨ (a = b ∧ x < y) := by omega

theorem byte_cons_eq (x y a b : Nat) (hx : x < 256) (hy : y < 256) :
    x + 256 * a = y + 256 * b ↔ a = b ∧ x = y := by omega

theorem leVal_inj (a b : List Nat) (hl : a.length = b.length) (ha : ∀ x ∈ a, x < 256) (hb : ∀ x ∈ b, x < 256)
    (h : leVal a = leVal b) : a = b := by
  induction a generalizing b with
  | nil => cases b with
    | nil => rfl
    | cons y ys => simp at hl
  | cons x xs ih =>
    cases b with
    | nil => simp at hl
    | cons y ys =>
      simp only [List.forall_mem_cons] at ha hb
      obtain ⟨ht, rfl⟩ := (byte_cons_eq x y _ _ ha.1 hb.1).mp h
      rw [ih ys (by simpa using hl) ha.2 hb.2 ht]

theorem leVal_lt_iff (a b : List Nat) (hl : a.length = b.length) (ha : ∀ x ∈ a, x < 256) (hb : ∀ x ∈ b, x < 256) :
    leVal a < leVal b ↔ msbLess a b := by
  induction a generalizing b with
  | nil => cases b with
    | nil => simp [leVal, msbLess]
    | cons y ys => simp at hl
  | cons x xs ih =>
    cases b with
    | nil => simp at hl
    | cons y ys =>
      simp only [List.forall_mem_cons] at ha hb
      have hl' : xs.length = ys.length := by simpa using hl
      have inj : leVal xs = leVal ys ↔ xs = ys := ⟨leVal_inj xs ys hl' ha.2 hb.2, congrArg leVal⟩
      rw [leVal, leVal, msbLess, byte_cons_lt x y _ _ ha.1 hb.1, ih ys hl' ha.2 hb.2, inj]

theorem le64_bytes (v : Nat) : ∀ x ∈ le64 v, x < 256 := by
  intro x hx
  simp only [le64, List.mem_cons, List.not_mem_nil, or_false] at hx
  rcases hx with rfl | rfl | rfl | rfl | rfl | rfl | rfl | rfl <;> exact Nat.mod_lt _ (by decide)

/-- ARBITRATION ORDER: for any two NAMEs, the order of their 64-bit values is the order of their 8 bytes compared from the
    MOST significant byte (byte 8, index 7) down — never the order of the byte lists as transmitted (least significant
    byte first) -/
theorem c15_name_order_is_msb_first (a b : Name) (wa : Name.WF a) (wb : Name.WF b) :
    Name.value a < Name.value b ↔ msbLess (Name.bytes a) (Name.bytes b) := by
  rw [c15_name_bytes_le, c15_name_bytes_le, ← leVal_lt_iff _ _ ((le64_length _).trans (le64_length _).symm) (le64_bytes _) (le64_bytes _),
    leVal_eq_fromBytesLE, leVal_eq_fromBytesLE, fromBytesLE_le64 _ (name_value_lt a wa), fromBytesLE_le64 _ (name_value_lt b wb)]

/-- … and the transmitted order really is a different relation: these two values compare one way as numbers and the
    other way as byte lists from the front -/
example : (1 : Nat) * 2^56 + 9 < 2 * 2^56 + 3 ∧ ¬ (le64 (1 * 2^56 + 9) < le64 (2 * 2^56 + 3)) := by decide
end J1939.Props.C15
