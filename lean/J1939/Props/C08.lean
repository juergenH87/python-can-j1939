/-
  C08 — Transfer outcome does not depend on where reception pre-empts the job thread (J1939-21, then J1939-22).
  Model: Model/Pre21.lean, Model/Pre22.lean — the background pass iterates over key snapshots of the session tables
  (and, on J1939-22, the multi-PG buffers); the receive thread handles a frame before the K-th session lookup (K
  arbitrary).  Tied to j1939_21.py by lock-step correspondence in which the REAL pass is pre-empted from a line tracer
  at exactly those points.
  Proved for the code as repaired by D19 (a session removed since the snapshot is skipped).
-/
import J1939.Model.Pre21
import J1939.Model.Pre22
import J1939.Props.C07
import J1939.Lemmas.EcuPass
namespace J1939.Props.C08
open J1939 J1939.Gen J1939.Dll21 J1939.Pre21

/-- THE RECEIVE THREAD NEVER ADDS OR REMOVES A SEND SESSION: whatever frame it handles (any identifier, any data,
    also when the handler raises) the keys of the send table — and their order — are the same; so the snapshot the
    background pass took of them stays valid while it is pre-empted -/
theorem c08_rx_keeps_snd_keys (cfg : Cfg) (s : St) (now : Nat) (acc : Nat → Bool) (canId : Nat) (data : List Nat) :
    (notify cfg s now acc canId data).st.snd.keys = s.snd.keys :=
  (notify_rx cfg s now acc canId data).snd_keys

/-- a key snapshot cut at the pre-emption point: both parts are duplicate-free and disjoint -/
theorem nodup_cut {l : List Nat} (h : l.Nodup) (n : Nat) :
    (l.take n).Nodup ∧ (l.drop n).Nodup ∧ ∀ k ∈ l.drop n, k ∉ l.take n := by
  obtain ⟨hT, hD, hdisj⟩ := List.nodup_append.mp (List.take_append_drop n l ▸ h)
  exact ⟨hT, hD, fun k hk h => hdisj k h k hk rfl⟩

/-- C08 (J1939-21), THE PRE-EMPTED PASS SURVIVES: from a well-formed state, whatever frame the receive thread handles
    before whichever session lookup of the pass (K arbitrary: inside the receive loop, between the loops, inside the
    send loop, after the last lookup) — the background thread raises nothing (it stays alive), the tables are
    well-formed afterwards and the wake-up it asks for is strictly in the future (no busy spin) -/
theorem c08_pre_pass_ok (cfg : Cfg) (acc : Nat → Bool) (s : St) (now K : Nat) (frame : Nat × List Nat)
    (hnow : 0 < now) (hc : CfgPos cfg) (hwf : WF s) :
    (tickPre cfg acc s now K frame).err = none ∧ WF (tickPre cfg acc s now K frame).st ∧
    now < (tickPre cfg acc s now K frame).wakeup := by
  have hidle : 0 < Const.Ecu.idle_wakeup := by decide
  unfold tickPre
  dsimp only
  by_cases hK : K < s.rcv.keys.length
  · -- inside the receive loop
    rw [if_pos hK]
    obtain ⟨s1, nw1, o1, e1, w1, n1, _⟩ := tickRcv_ok now (s.rcv.keys.take K) s (now + Const.Ecu.idle_wakeup) [] hwf (by omega)
    have w2 : WF (rx cfg acc now frame s1).1 := J1939.Props.C07.c07_wf_notify cfg s1 now acc frame.1 frame.2 hnow w1
    obtain ⟨s3, nw3, o3, e3, w3, n3, _⟩ := tickRcv_ok now (s.rcv.keys.drop K) (rx cfg acc now frame s1).1 nw1 [] w2 n1
    obtain ⟨s4, nw4, o4, e4, l4⟩ := tickSnd_ok cfg now hc s3.snd.keys s3 nw3 o3 w3.sk
      (PyDict.get?_isSome_of_mem_keys _) w3 n3
    simp only [e1, e3, e4]
    exact ⟨trivial, l4.wf, l4.wake⟩
  · -- inside the send loop, or after the last lookup
    rw [if_neg hK]
    obtain ⟨s1, nw1, o1, e1, w1, n1, _⟩ := tickRcv_ok now s.rcv.keys s (now + Const.Ecu.idle_wakeup) [] hwf (by omega)
    obtain ⟨hndT, hndD, hdisj⟩ := nodup_cut w1.sk (K - s.rcv.keys.length)
    obtain ⟨s2, nw2, o2, e2, l2⟩ := tickSnd_ok cfg now hc (s1.snd.keys.take (K - s.rcv.keys.length)) s1 nw1 o1 hndT
      (fun k hk => (PyDict.mem_keys_iff_get? _ k).mp (List.mem_of_mem_take hk)) w1 n1
    have w3 : WF (rx cfg acc now frame s2).1 := J1939.Props.C07.c07_wf_notify cfg s2 now acc frame.1 frame.2 hnow l2.wf
    -- the keys still to be visited were not touched by the first half, and the receive thread removes no key
    have hpres : ∀ k ∈ s1.snd.keys.drop (K - s.rcv.keys.length), ((rx cfg acc now frame s2).1.snd.get? k).isSome = true := by
      intro k hk
      rw [← PyDict.mem_keys_iff_get?, show (rx cfg acc now frame s2).1.snd.keys = s2.snd.keys from
        c08_rx_keeps_snd_keys cfg s2 now acc frame.1 frame.2, PyDict.mem_keys_iff_get?, l2.other k (hdisj k hk),
        ← PyDict.mem_keys_iff_get?]
      exact List.mem_of_mem_drop hk
    obtain ⟨s4, nw4, o4, e4, l4⟩ := tickSnd_ok cfg now hc (s1.snd.keys.drop (K - s.rcv.keys.length))
      (rx cfg acc now frame s2).1 nw2 [] hndD hpres w3 l2.wake
    simp only [e1, e2, e4]
    exact ⟨trivial, l4.wf, l4.wake⟩

/-- NO PACKET IS LOST TO THE PASS: a receive session that is not yet due is left exactly as it is by the pass over any
    (stale or fresh) key list — the pass only ever removes sessions whose deadline has passed; so the reassembly done
    by the receive thread is the same wherever the pass is pre-empted -/
theorem c08_pass_keeps_live_sessions (now : Nat) (ks : List Nat) (s : St) (nw : Nat) (o : List Out) (k : Nat) (r : Rcv)
    (hg : s.rcv.get? k = some r) (hlive : now < r.deadline) : (tickRcv now ks s nw o).1.rcv.get? k = some r :=
  (tickRcv_keeps now ks s nw o).2 k r hg hlive

/-- the send loop does not touch the receive table at all, and the receive loop does not touch the send table
    (`tickSnd_rcv` / `tickRcv_keeps`): the two halves of the pass commute with each other's data -/
theorem c08_tickSnd_keeps_rcv (cfg : Cfg) (now : Nat) (ks : List Nat) (s : St) (nw : Nat) (o : List Out) :
    (tickSnd cfg now ks s nw o).1.rcv = s.rcv :=
  tickSnd_rcv cfg now ks s nw o

inductive Ev where
  | send (now dp pf ps prio sa : Nat) (data : List Nat)
  | rx (now canId : Nat) (data : List Nat)
  | pass (now K canId : Nat) (data : List Nat)

def Ev.now : Ev → Nat
  | .send n .. => n | .rx n .. => n | .pass n .. => n

def step (cfg : Cfg) (acc : Nat → Bool) (s : St) : Ev → St
  | .send now dp pf ps prio sa data => (sendPgn cfg s now dp pf ps prio sa data).1.st
  | .rx now canId data => (notify cfg s now acc canId data).st
  | .pass now K canId data => (tickPre cfg acc s now K (canId, data)).st

/-- A WHOLE LIFE UNDER PRE-EMPTION: any history of application sends, received frames and background passes each of
    which is pre-empted at an arbitrary point by an arbitrary frame, at arbitrary (positive) times, keeps the tables
    well-formed — so by `c08_pre_pass_ok` no pass of the history raises: the background thread never dies -/
theorem c08_history_wf (cfg : Cfg) (acc : Nat → Bool) (hc : CfgPos cfg) (evs : List Ev) (s : St) (hwf : WF s)
    (hpos : ∀ e ∈ evs, 0 < e.now) : WF (evs.foldl (step cfg acc) s) := by
  refine List.foldlRecOn evs _ hwf fun s hwf e he => ?_
  have hp := hpos e he
  cases e with
  | send now dp pf ps prio sa data => exact J1939.Props.C07.c07_wf_sendPgn cfg s now dp pf ps prio sa data hp hwf
  | rx now canId data => exact J1939.Props.C07.c07_wf_notify cfg s now acc canId data hp hwf
  | pass now K canId data => exact (c08_pre_pass_ok cfg acc s now K (canId, data) hp hc hwf).2.1

theorem c08_thread_never_dies (cfg : Cfg) (acc : Nat → Bool) (hc : CfgPos cfg) (evs : List Ev) (hpos : ∀ e ∈ evs, 0 < e.now)
    (now K canId : Nat) (data : List Nat) (hnow : 0 < now) :
    (tickPre cfg acc (evs.foldl (step cfg acc) {}) now K (canId, data)).err = none :=
  (c08_pre_pass_ok cfg acc _ now K (canId, data) hnow hc (c08_history_wf cfg acc hc evs {} J1939.Props.C07.c07_wf_init hpos)).1

/-- what a handler result must satisfy: the tables are untouched, or a pass was requested, or the handler raised -/
def Rung (s : St) (r : Res) : Prop := r.st = s ∨ Out.wake ∈ r.outs ∨ r.err.isSome = true

/-- THE RECEIVE THREAD NEVER CHANGES A SESSION TABLE WITHOUT ASKING FOR A PASS: whatever frame it handles — also a
    CTS, an end-of-message acknowledgement or a peer abort for a session the background pass has just visited — either
    both tables are exactly as before or a wake-up request is among the outputs (or the handler raised); so a session
    the handler made due is picked up by a pass that follows at once, and `c07_pass_ok` says that pass leaves no
    overdue record: no session stays stuck behind a pre-empted pass -/
theorem c08_rx_change_wakes (cfg : Cfg) (s : St) (now : Nat) (acc : Nat → Bool) (canId : Nat) (data : List Nat) :
    Rung s (notify cfg s now acc canId data) :=
  (notify_rx cfg s now acc canId data).rung

end J1939.Props.C08

namespace J1939.Props.C08
open J1939 J1939.Gen

section fd
open J1939.Dll22 J1939.Pre22

/-- J1939-22: the receive thread never adds or removes a send session and never touches a multi-PG buffer -/
theorem c08_22_rx_keeps_snd_keys (cfg : Cfg) (s : St) (now : Nat) (acc : Nat → Bool) (canId : Nat) (data : List Nat) :
    (notify cfg s now acc canId data).st.snd.keys = s.snd.keys ∧ (notify cfg s now acc canId data).st.mpg = s.mpg := by
  obtain ⟨_, h⟩ := notify_rx cfg s now acc canId data
  exact ⟨h.snd_keys, h.mpg⟩

theorem afterRcv_ok (cfg : Cfg) (acc : Nat → Bool) (now K : Nat) (frame : Nat × List Nat) (s1 : St) (nw1 : Nat) (pre : List Out)
    (hnow : 0 < now) (hc : CfgPos cfg) (hwf : WF s1) (hnw : now < nw1) :
    (afterRcv cfg acc now K frame s1 nw1 pre).err = none ∧ WF (afterRcv cfg acc now K frame s1 nw1 pre).st ∧
    now < (afterRcv cfg acc now K frame s1 nw1 pre).wakeup := by
  have keys (t : St) := c08_22_rx_keeps_snd_keys cfg t now acc frame.1 frame.2
  unfold afterRcv
  dsimp only
  by_cases hK : K < s1.mpg.keys.length
  · -- inside the multi-PG loop
    rw [if_pos hK]
    obtain ⟨hndT, hndD, hdisj⟩ := nodup_cut hwf.mkeys K
    obtain ⟨s2, nw2, o2, e2, w2, n2, f2⟩ := tickMpg_ok now (s1.mpg.keys.take K) s1 nw1 pre hndT
      (fun k hk => (PyDict.mem_keys_iff_get? _ k).mp (List.mem_of_mem_take hk)) hwf hnw
    have w3 : WF (rx cfg acc now frame s2).1 := J1939.Props.C07.c07_22_wf_notify cfg s2 now acc frame.1 frame.2 hnow w2
    obtain ⟨s4, nw4, o4, e4, w4, n4, _⟩ := tickMpg_ok now (s1.mpg.keys.drop K) (rx cfg acc now frame s2).1 nw2 [] hndD
      (fun k hk => by
        rw [show (rx cfg acc now frame s2).1.mpg = s2.mpg from (keys s2).2, f2 k (hdisj k hk),
          ← PyDict.mem_keys_iff_get?]
        exact List.mem_of_mem_drop hk) w3 n2
    obtain ⟨s5, nw5, o5, e5, w5, n5, _⟩ := tickSnd_ok cfg now hc s4.snd.keys s4 nw4 o4 w4.sk
      (PyDict.get?_isSome_of_mem_keys _) w4 n4
    simp only [e2, e4, e5]
    exact ⟨trivial, w5, n5⟩
  · -- inside the send loop, or after the last lookup
    rw [if_neg hK]
    obtain ⟨s2, nw2, o2, e2, w2, n2, _⟩ := tickMpg_ok now s1.mpg.keys s1 nw1 pre hwf.mkeys
      (PyDict.get?_isSome_of_mem_keys _) hwf hnw
    obtain ⟨hndT, hndD, hdisj⟩ := nodup_cut w2.sk (K - s1.mpg.keys.length)
    obtain ⟨s3, nw3, o3, e3, w3, n3, f3⟩ := tickSnd_ok cfg now hc (s2.snd.keys.take (K - s1.mpg.keys.length)) s2 nw2 o2 hndT
      (fun k hk => (PyDict.mem_keys_iff_get? _ k).mp (List.mem_of_mem_take hk)) w2 n2
    have w4 : WF (rx cfg acc now frame s3).1 := J1939.Props.C07.c07_22_wf_notify cfg s3 now acc frame.1 frame.2 hnow w3
    obtain ⟨s5, nw5, o5, e5, w5, n5, _⟩ := tickSnd_ok cfg now hc (s2.snd.keys.drop (K - s1.mpg.keys.length))
      (rx cfg acc now frame s3).1 nw3 [] hndD
      (fun k hk => by
        rw [← PyDict.mem_keys_iff_get?, show (rx cfg acc now frame s3).1.snd.keys = s3.snd.keys from (keys s3).1,
          PyDict.mem_keys_iff_get?, f3 k (hdisj k hk), ← PyDict.mem_keys_iff_get?]
        exact List.mem_of_mem_drop hk) w4 n3
    simp only [e2, e3, e5]
    exact ⟨trivial, w5, n5⟩

/-- C08 (J1939-22), THE PRE-EMPTED PASS SURVIVES: from a well-formed state, whatever frame the receive thread handles
    before whichever lookup of the pass (in the receive loop, the multi-PG loop, the send loop, between them, after the
    last) — the background thread raises nothing, the tables are well-formed afterwards and the wake-up it asks for is
    strictly in the future -/
theorem c08_22_pre_pass_ok (cfg : Cfg) (acc : Nat → Bool) (s : St) (now K : Nat) (frame : Nat × List Nat)
    (hnow : 0 < now) (hc : CfgPos cfg) (hwf : WF s) :
    (Pre22.tickPre cfg acc s now K frame).err = none ∧ WF (Pre22.tickPre cfg acc s now K frame).st ∧
    now < (Pre22.tickPre cfg acc s now K frame).wakeup := by
  have hidle : 0 < Const.Ecu.idle_wakeup := by decide
  unfold Pre22.tickPre
  dsimp only
  by_cases hK : K < s.rcv.keys.length
  · rw [if_pos hK]
    obtain ⟨s1, nw1, o1, e1, w1, n1⟩ := tickRcv_ok now (s.rcv.keys.take K) s (now + Const.Ecu.idle_wakeup) [] hwf (by omega)
    have w2 : WF (rx cfg acc now frame s1).1 := J1939.Props.C07.c07_22_wf_notify cfg s1 now acc frame.1 frame.2 hnow w1
    obtain ⟨s3, nw3, o3, e3, w3, n3⟩ := tickRcv_ok now (s.rcv.keys.drop K) (rx cfg acc now frame s1).1 nw1 [] w2 n1
    obtain ⟨s4, nw4, o4, e4, w4, n4, _⟩ := tickMpg_ok now s3.mpg.keys s3 nw3 o3 w3.mkeys
      (PyDict.get?_isSome_of_mem_keys _) w3 n3
    obtain ⟨s5, nw5, o5, e5, w5, n5, _⟩ := tickSnd_ok cfg now hc s4.snd.keys s4 nw4 o4 w4.sk
      (PyDict.get?_isSome_of_mem_keys _) w4 n4
    simp only [e1, e3, e4, e5]
    exact ⟨trivial, w5, n5⟩
  · rw [if_neg hK]
    obtain ⟨s1, nw1, o1, e1, w1, n1⟩ := tickRcv_ok now s.rcv.keys s (now + Const.Ecu.idle_wakeup) [] hwf (by omega)
    simp only [e1]
    exact afterRcv_ok cfg acc now _ frame s1 nw1 o1 hnow hc w1 n1

end fd
section wait
open J1939.Ecu

/-- THE THREAD NEVER BLOCKS WITH A NON-POSITIVE TIMEOUT: whenever a pass of the ECU thread ends in the blocking wait on
    its wake-up queue, the timeout it passes is strictly positive — for every timer table, every clock, every wake-up time
    the data link layer asked for (also one that the receive path moved to "now" or into the past during the pass: then
    the pass does not block at all).  `queue.Queue.get` raises ValueError for a negative timeout, which would end the
    thread. -/
theorem c08_wait_timeout_positive (c : Core) (now clk dllWake d : Nat)
    (h : (c.pass now clk dllWake).2.2.1 = Sleep.sleep d) : 0 < d := by
  obtain ⟨w', sl, hp, hsl⟩ := pass_spec c now clk dllWake
  rw [hp] at h
  obtain ⟨hgt, _, hd⟩ := hsl d h
  omega

/-- … and a wake-up time that is not in the future never blocks -/
theorem c08_no_wait_when_due (c : Core) (now clk dllWake : Nat)
    (h : (timerLoop now (c.timers.map (·.uid)) c clk dllWake []).2.2.1 ≤ (timerLoop now (c.timers.map (·.uid)) c clk dllWake []).2.1) :
    (c.pass now clk dllWake).2.2.1 = Sleep.spin := by
  unfold Core.pass
  simp only
  have : ¬ (timerLoop now (c.timers.map (·.uid)) c clk dllWake []).2.2.1 > (timerLoop now (c.timers.map (·.uid)) c clk dllWake []).2.1 := by omega
  simp only [this, if_false]
end wait

end J1939.Props.C08
