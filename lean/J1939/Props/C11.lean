/-
  C11 — FD multi-PG packing preserves every group and honours frame and time limits.
-/
import J1939.Lemmas.Step21
import J1939.Model.Dll22
import J1939.Lemmas.PyDict
import J1939.Lemmas.Mpg22
import J1939.Lemmas.Id21
namespace J1939.Props.C11
open J1939 J1939.Gen J1939.Dll22 J1939.Bits J1939.Lemmas

/-- THE DLC TABLE (reflected from the source, all 65 entries): every length 0..64 maps to a legal FD length that is at
    least as large and at most 64 -/
theorem c11_lut : Const.LUT_FD_DLC.length = 65 ∧
    ∀ n < 65, n ≤ Py.idx Const.LUT_FD_DLC n ∧ Py.idx Const.LUT_FD_DLC n ≤ 64 ∧ legalFd (Py.idx Const.LUT_FD_DLC n) = true :=
  ⟨lut_length, lut_legal⟩

theorem paddedData_length (cpgs : List Cpg) (h : packedSize cpgs ≤ 64) :
    (paddedData cpgs).length = Py.idx Const.LUT_FD_DLC (packedSize cpgs) := by
  have := (c11_lut.2 (packedSize cpgs) (by omega)).1
  simp only [paddedData, enc_length, List.length_append, List.length_replicate]
  omega

/-- FRAME BOUNDS: every multi-PG frame that is emitted is an FD frame of at most 64 bytes with a legal FD length; more
    than 64 bytes of groups can never be emitted (IndexError instead — excluded by the fill invariant below) -/
theorem c11_frame_bounds (ff : Nat) (cpgs : List Cpg) (src dst : Nat) (f : Frame) (h : multiPgFrame ff cpgs src dst = some f) :
    f.data.length ≤ 64 ∧ legalFd f.data.length = true ∧ f.fd = true := by
  rw [multiPgFrame_eq] at h
  by_cases hsz : 64 < packedSize cpgs
  · rw [if_pos hsz] at h; cases h
  · obtain ⟨_, h2, h3⟩ := c11_lut.2 (packedSize cpgs) (by omega)
    have hd : f.data = paddedData cpgs ∧ f.fd = true := by
      rw [if_neg hsz] at h
      split at h <;> cases h <;> exact ⟨rfl, rfl⟩
    rw [hd.1, paddedData_length cpgs (by omega)]
    exact ⟨h2, h3, hd.2⟩

/-- the groups in buffers are as send_pgn creates them -/
def BufGroupsOk (b : MpgBuf) : Prop := ∀ c ∈ b.cpgs, CpgOk c

/-- within `fuel` steps the chain of buffers `session, session + 1, …` reaches one with room for `len` more bytes
    (or a free key) -/
def Room (ff src dst len fuel session : Nat) (m : PyDict MpgBuf) : Prop :=
  ∃ k, k < fuel ∧ ∀ b, m.get? (Tp22.buffer_hash_mpg ff (session + k) src dst) = some b → b.fill ≤ Const.DL22.TP - len

/-- … and still does after a full buffer has been passed (if the counter wraps onto it the chain has no room at all) -/
theorem Room.step {ff src dst len fuel session : Nat} {m : PyDict MpgBuf} {b : MpgBuf} (now : Nat)
    (h : Room ff src dst len (fuel + 1) session m) (hg : m.get? (Tp22.buffer_hash_mpg ff session src dst) = some b)
    (hfull : ¬ b.fill ≤ Const.DL22.TP - len) :
    Room ff src dst len fuel (session + 1) (m.set (Tp22.buffer_hash_mpg ff session src dst) { b with deadline := now }) := by
  obtain ⟨k, hk, hroom⟩ := h
  cases k with
  | zero => exact absurd (hroom b hg) hfull
  | succ k =>
    rw [show session + (k + 1) = session + 1 + k by omega] at hroom
    refine ⟨k, by omega, fun b2 hb2 => hroom b2 ?_⟩
    by_cases hsame : Tp22.buffer_hash_mpg ff (session + 1 + k) src dst = Tp22.buffer_hash_mpg ff session src dst
    · rw [hsame] at hroom; exact absurd (hroom b hg) hfull
    · rwa [PyDict.get?_set_ne _ _ _ _ hsame] at hb2

/-- FILL INVARIANT, preserved by every submission (groups of at most 60 bytes): every buffer stays within one frame -/
theorem c11_fill_inv (now deadline ff src dst : Nat) (cpg : Cpg) (hlen : cpg.data.length ≤ 60) (fuel session : Nat)
    (m : PyDict MpgBuf) (o : List Out) (h : PyDict.All BufOk m) :
    PyDict.All BufOk (mpgPlace now deadline ff src dst cpg fuel session m o).1 :=
  mpgPlace_fill now deadline ff src dst cpg hlen fuel session m o h

theorem c11_groups_inv (now deadline ff src dst : Nat) (cpg : Cpg) (hok : CpgOk cpg) (fuel session : Nat)
    (m : PyDict MpgBuf) (o : List Out) (h : PyDict.All BufGroupsOk m) :
    PyDict.All BufGroupsOk (mpgPlace now deadline ff src dst cpg fuel session m o).1 := by
  have h1 : ∀ c ∈ [cpg], CpgOk c := List.forall_mem_singleton.mpr hok
  exact mpgPlace_all BufGroupsOk now deadline ff src dst cpg h1 (fun _ _ hb _ => List.forall_mem_append.mpr ⟨hb, h1⟩)
    (fun _ _ h => h) fuel session m o h

/-- NEVER COMBINED ACROSS DESTINATIONS OR FRAME FORMATS: the buffer key is (frame format, counter, source, destination) and
    the job thread recovers exactly these from the key when it builds the frame -/
theorem c11_key_separates (ff c src dst : Nat) :
    Tp22.buffer_unhash_mpg (Tp22.buffer_hash_mpg ff c src dst) = (ff % 256, c % 256, src % 256, dst % 256) := by
  have h256 : 0 < 256 := by decide
  have h := Radix.digits_val [256, 256, 256, 256] [dst % 256, src % 256, c % 256, ff % 256]
    ⟨Nat.mod_lt _ h256, Nat.mod_lt _ h256, Nat.mod_lt _ h256, Nat.mod_lt _ h256, trivial⟩
  rw [← buffer_hash_mpg_val, buffer_unhash_mpg_digits] at h
  simp only [List.cons.injEq, and_true] at h
  exact Prod.ext h.2.2.2 (Prod.ext h.2.2.1 (Prod.ext h.2.1 h.1))

/-- UNPACK ∘ PACK: for every list of groups as send_pgn creates them, followed by padding as the builder produces it
    (nothing, up to four bytes, or a run starting with the 0x00 padding service header), the stack's own unpack loop
    returns exactly the groups — C-PGN and data byte-identical, in order, each once -/
theorem c11_unpack_pack (prio sa dest : Nat) (cpgs : List Cpg) (pad : List Nat)
    (hc : ∀ c ∈ cpgs, CpgOk c) (hpad : pad.length ≤ 4 ∨ pad.head? = some 0) (fuel : Nat) (hf : cpgs.length < fuel) :
    unpackMpg prio sa dest fuel (cpgs.flatMap enc ++ pad) = cpgs.map (fun c => Out.notify prio c.cpgn sa dest c.data) := by
  induction cpgs generalizing fuel with
  | nil => exact unpackMpg_pad prio sa dest fuel pad hpad
  | cons c cs ih =>
    obtain ⟨hc1, hcs⟩ := List.forall_mem_cons.mp hc
    cases fuel with
    | zero => exact absurd hf (Nat.not_lt_zero _)
    | succ fuel =>
      rw [List.flatMap_cons, List.append_assoc, unpackMpg_enc prio sa dest fuel c hc1, List.map_cons,
        ih hcs fuel (Nat.lt_of_succ_lt_succ hf)]

/-- the padding the builder appends is of that form -/
theorem c11_padding_form (p : Nat) :
    let pad := List.replicate (min p 3) 0 ++ List.replicate (p - 3) 170
    pad.length ≤ 4 ∨ pad.head? = some 0 := by
  simp only
  by_cases h : p ≤ 4
  · left; simp only [List.length_append, List.length_replicate]; omega
  · right
    have : min p 3 = 2 + 1 := by omega
    rw [this, List.replicate_succ]; rfl

/-- TIME LIMIT, placing: a group submitted with a limit ends up in a buffer (in exactly one: `c11_place_once`) whose
    deadline is then not later than the group's own deadline; and unless that buffer already had a deadline at least as
    early (so the job thread already knows when to get up), the job thread is woken -/
theorem c11_deadline_placed (now deadline ff src dst : Nat) (cpg : Cpg) (fuel session : Nat) (m : PyDict MpgBuf) (o : List Out)
    (hroom : ∃ k, k < fuel ∧ ∀ b, m.get? (Tp22.buffer_hash_mpg ff (session + k) src dst) = some b →
        b.fill ≤ Const.DL22.TP - cpg.data.length) :
    ∃ h b', (mpgPlace now deadline ff src dst cpg fuel session m o).1.get? h = some b' ∧ cpg ∈ b'.cpgs ∧ b'.deadline ≤ deadline ∧
      (Out.wake ∈ (mpgPlace now deadline ff src dst cpg fuel session m o).2 ∨ ∃ b, m.get? h = some b ∧ b.deadline ≤ deadline) := by
  -- carried along: the outputs only grow (so the wake-up put out when a full buffer is passed is still there at the end)
  refine (mpgPlace_induction now deadline ff src dst cpg
    (P := fun fuel session m o r => Room ff src dst cpg.data.length fuel session m → (∀ x ∈ o, x ∈ r.2) ∧
      ∃ h b', r.1.get? h = some b' ∧ cpg ∈ b'.cpgs ∧ b'.deadline ≤ deadline ∧
        (Out.wake ∈ r.2 ∨ ∃ b, m.get? h = some b ∧ b.deadline ≤ deadline))
    (stop := ?stop) (create := ?create) (append := ?append) (full := ?full) fuel session m o hroom).2
  case stop => exact fun _ _ _ ⟨k, hk, _⟩ => absurd hk (Nat.not_lt_zero k)   -- no fuel, no room
  case create =>
    -- a new buffer under the free key: it holds the group, has the group's deadline, and the thread is woken
    exact fun _ _ m o _ _ => ⟨fun x hx => List.mem_append_left _ hx, _, _, PyDict.get?_set_self _ _ _, List.mem_singleton_self cpg,
      Nat.le_refl _, Or.inl (List.mem_append_right _ (List.mem_singleton_self _))⟩
  case append =>
    -- the buffer with room: its deadline becomes the earlier of the two; woken unless it already was the earlier
    intro _ _ m o b hg _ _
    refine ⟨fun x hx => ?_, _, _, PyDict.get?_set_self _ _ _, List.mem_append_right _ (List.mem_singleton_self cpg), ?_, ?_⟩
    · split
      · exact List.mem_append_left _ hx
      · exact hx
    · simp only; split <;> omega
    · by_cases he : b.deadline > deadline
      · left; simp [he]
      · right; exact ⟨b, hg, by omega⟩
  case full =>
    -- a full buffer is passed (and marked due, with a wake-up that stays among the outputs): by induction, from the next key
    intro _ _ m o b r hg hfull ih hroom
    obtain ⟨hmono, h, b', g1, g2, g3, _⟩ := ih (hroom.step now hg hfull)
    exact ⟨fun x hx => hmono x (List.mem_append_left _ hx), h, b', g1, g2, g3, Or.inl (hmono _ (by simp))⟩

/-- TIME LIMIT, serving: the job thread sends a buffer whose deadline has come and removes it; for a buffer that is not
    yet due the wake-up it asks for is not later than the buffer's deadline -/
theorem c11_deadline_served (now k : Nat) (ks : List Nat) (s : St) (nw : Nat) (o : List Out) (buf : MpgBuf)
    (hg : s.mpg.get? k = some buf) :
    (buf.deadline ≤ now → ∀ f, multiPgFrame (Tp22.buffer_unhash_mpg k).1 buf.cpgs (Tp22.buffer_unhash_mpg k).2.2.1 (Tp22.buffer_unhash_mpg k).2.2.2 = some f →
        tickMpg now (k :: ks) s nw o = tickMpg now ks { s with mpg := s.mpg.erase k } nw (o ++ [.tx f])) ∧
    (now < buf.deadline → tickMpg now (k :: ks) s nw o = tickMpg now ks s (if nw > buf.deadline then buf.deadline else nw) o ∧
        (if nw > buf.deadline then buf.deadline else nw) ≤ buf.deadline) :=
  ⟨fun hdue f hf => tickMpg_due now k ks s nw o buf f hg hdue hf,
   fun h => ⟨tickMpg_early now k ks s nw o buf hg h, by split <;> omega⟩⟩

theorem framePrio_lt (cpgs : List Cpg) : framePrio cpgs < 8 :=
  Nat.lt_succ_of_le (List.foldlRecOn cpgs _ (motive := (· ≤ 7)) (Nat.le_refl 7)
    fun _ hb _ _ => Nat.le_trans (Nat.min_le_right ..) hb)

/-- what the receive path makes of the identifier of an extended multi-PG frame -/
theorem mpg_id_parse (prio da sa : Nat) (hp : prio < 8) (hda : da < 256) (hsa : sa < 256) :
    let mid := MessageId.ofCanId (MessageId.can_id (MessageId.ofFields prio (Const.PGN.FEFF_MULTI_PG ||| (da &&& 255)) sa))
    mid.source_address = sa ∧ mid.priority = prio ∧
    PGN.from_message_id mid = { data_page := 0, pdu_format := 37, pdu_specific := da } := by
  -- 9472 = 37 · 256: the multi-PG PGN with the destination in its low byte is the PDU1 PGN of format 37
  have e : Const.PGN.FEFF_MULTI_PG ||| (da &&& 255) = PGN.value (PGN.ofFields 0 37 da) := by
    rw [Dll21.pdu1_pgn, and_255, Nat.or_comm, Nat.add_comm]
    exact or_shl _ 37 8 (Nat.mod_lt _ (by decide))
  rw [e]; exact Dll21.tp_id_parse prio 37 da sa hp (by omega) hda hsa

theorem length_le_packed (cpgs : List Cpg) : cpgs.length ≤ packedSize cpgs := by
  induction cpgs with
  | nil => simp [packedSize]
  | cons c cs ih => simp only [packedSize, List.length_cons, List.map_cons, List.sum_cons] at ih ⊢; omega

/-- ASSEMBLY: a list of groups whose packed size fits (the fill invariant) is assembled into exactly `feffFrame` -/
theorem multiPgFrame_feff (ff src dst : Nat) (cpgs : List Cpg) (hff : ff ≠ Const.FF.FBFF) (hsz : packedSize cpgs ≤ 64) :
    multiPgFrame ff cpgs src dst = some (feffFrame cpgs src dst) := by
  rw [multiPgFrame_eq, if_neg (by omega), if_neg (by simpa using hff)]

theorem notify_mpg (cfg : Cfg) (s : St) (now : Nat) (acc : Nat → Bool) (prio src dst : Nat) (data : List Nat)
    (hp : prio < 8) (hsrc : src < 256) (hdst : dst < 256) (hacc : dst = 255 ∨ acc dst = true) :
    notify cfg s now acc (MessageId.can_id (MessageId.ofFields prio (Const.PGN.FEFF_MULTI_PG ||| (dst &&& 255)) src)) data =
      { st := s, outs := unpackMpg prio src dst (data.length + 1) data } := by
  obtain ⟨p1, p2, p3⟩ := mpg_id_parse prio dst src hp hdst hsrc
  unfold notify
  simp only [p1, p2, p3, Dll21.accept_guard acc dst hacc, Dll21.npv_pdu1 37 dst (by decide) hdst]
  rfl

/-- RECEPTION of a multi-PG frame by ANY stack (any state, any time) that accepts the destination: the subscribers get
    exactly the groups — C-PGN and data byte-identical, in order, each once, from the sender's address — and the
    receiver's state is unchanged -/
theorem rx_feff (cfg : Cfg) (s : St) (now : Nat) (acc : Nat → Bool) (src dst : Nat) (cpgs : List Cpg)
    (hc : ∀ c ∈ cpgs, CpgOk c) (hsrc : src < 256) (hdst : dst < 256) (hacc : dst = 255 ∨ acc dst = true) :
    notify cfg s now acc (feffFrame cpgs src dst).id (feffFrame cpgs src dst).data =
      { st := s, outs := cpgs.map (fun c => Out.notify (framePrio cpgs) c.cpgn src dst c.data) } := by
  -- the loop has fuel for one round per payload byte, and a group takes at least four
  have hfuel : cpgs.length < (paddedData cpgs).length + 1 := by
    have h1 := length_le_packed cpgs
    have h2 := enc_length cpgs
    simp only [paddedData, List.length_append]; omega
  show notify cfg s now acc (MessageId.can_id _) (paddedData cpgs) = _
  rw [notify_mpg cfg s now acc (framePrio cpgs) src dst _ (framePrio_lt cpgs) hsrc hdst hacc]
  congr 1
  exact c11_unpack_pack (framePrio cpgs) src dst cpgs _ hc (c11_padding_form _) _ hfuel

/-- FRAME END TO END: assembly composed with reception -/
theorem c11_frame_end_to_end (cfg : Cfg) (s : St) (now : Nat) (acc : Nat → Bool) (ff src dst : Nat) (cpgs : List Cpg)
    (hff : ff ≠ Const.FF.FBFF) (hc : ∀ c ∈ cpgs, CpgOk c) (hsz : packedSize cpgs ≤ 64)
    (hsrc : src < 256) (hdst : dst < 256) (hacc : dst = 255 ∨ acc dst = true) :
    ∃ f, multiPgFrame ff cpgs src dst = some f ∧ f.ext = true ∧ f.data.length ≤ 64 ∧
      notify cfg s now acc f.id f.data =
        { st := s, outs := cpgs.map (fun c => Out.notify (framePrio cpgs) c.cpgn src dst c.data) } :=
  ⟨feffFrame cpgs src dst, multiPgFrame_feff ff src dst cpgs hff hsz, rfl,
    (c11_frame_bounds ff cpgs src dst _ (multiPgFrame_feff ff src dst cpgs hff hsz)).1,
    rx_feff cfg s now acc src dst cpgs hc hsrc hdst hacc⟩

/-- all groups waiting in collection buffers -/
def pending (m : PyDict MpgBuf) : List Cpg := m.flatMap (fun p => p.2.cpgs)

theorem get?_cons {α : Type} (p : Nat × α) (d : PyDict α) (k : Nat) :
    PyDict.get? (p :: d) k = if p.1 == k then some p.2 else PyDict.get? d k := by
  simp only [PyDict.get?, List.find?_cons]
  cases p.1 == k <;> rfl

theorem pending_set (m : PyDict MpgBuf) (k : Nat) (v : MpgBuf) (c : Cpg) :
    (pending (m.set k v)).count c = (pending m).count c + v.cpgs.count c - (m.get? k).elim 0 (·.cpgs.count c) := by
  apply Nat.eq_sub_of_add_eq
  induction m with
  | nil => simp [PyDict.set, PyDict.get?, pending]
  | cons p d ih =>
    rw [get?_cons, PyDict.set]
    by_cases hk : (p.1 == k) = true
    · simp only [hk, if_true, pending, List.flatMap_cons, List.count_append, Option.elim_some]; omega
    · simp only [hk, Bool.false_eq_true, if_false, pending, List.flatMap_cons, List.count_append] at ih ⊢; omega

theorem pending_erase (m : PyDict MpgBuf) (k : Nat) (b : MpgBuf) (hn : m.keys.Nodup) (h : m.get? k = some b) (c : Cpg) :
    (pending (m.erase k)).count c + b.cpgs.count c = (pending m).count c := by
  induction m with
  | nil => cases h
  | cons p d ih =>
    rw [get?_cons] at h
    obtain ⟨hnot, hn⟩ := List.nodup_cons.mp hn
    by_cases hk : (p.1 == k) = true
    · -- keys are unique: nothing else is erased from the rest of the dictionary
      have hd : PyDict.erase d k = d := List.filter_eq_self.mpr fun q hq => by
        simp only [bne_iff_ne, ne_eq]
        exact fun e => hnot (List.mem_map.mpr ⟨q, hq, e.trans (beq_iff_eq.mp hk).symm⟩)
      rw [if_pos hk] at h
      have he : PyDict.erase (p :: d) k = d := by
        simp only [PyDict.erase, List.filter_cons, bne, hk, Bool.not_true, Bool.false_eq_true, if_false]; exact hd
      rw [he, ← Option.some.inj h]
      simp only [pending, List.flatMap_cons, List.count_append]; omega
    · rw [if_neg hk] at h
      have he : PyDict.erase (p :: d) k = p :: PyDict.erase d k := by
        simp only [PyDict.erase, List.filter_cons, bne, Bool.eq_false_iff.mpr hk, Bool.not_false, if_true]
      have := ih hn h
      simp only [he, pending, List.flatMap_cons, List.count_append] at this ⊢; omega

theorem count_single (c cpg : Cpg) : List.count c [cpg] = if c = cpg then 1 else 0 := by
  rw [List.count_singleton]; simp only [beq_iff_eq, @eq_comm _ cpg c]

/-- PLACING CONSERVES: a submission with a time limit (some buffer of the chain has room) adds the group to the waiting
    groups exactly once and neither loses nor duplicates any other waiting group -/
theorem c11_place_once (now deadline ff src dst : Nat) (cpg : Cpg) (fuel session : Nat) (m : PyDict MpgBuf) (o : List Out)
    (hroom : ∃ k, k < fuel ∧ ∀ b, m.get? (Tp22.buffer_hash_mpg ff (session + k) src dst) = some b →
        b.fill ≤ Const.DL22.TP - cpg.data.length) (c : Cpg) :
    (pending (mpgPlace now deadline ff src dst cpg fuel session m o).1).count c = (pending m).count c + (if c = cpg then 1 else 0) := by
  refine mpgPlace_induction now deadline ff src dst cpg
    (P := fun fuel session m _ r => Room ff src dst cpg.data.length fuel session m →
      (pending r.1).count c = (pending m).count c + (if c = cpg then 1 else 0))
    (stop := ?stop) (create := ?create) (append := ?append) (full := ?full) fuel session m o hroom
  case stop => exact fun _ _ _ ⟨k, hk, _⟩ => absurd hk (Nat.not_lt_zero k)
  case create =>
    -- a new buffer holding just the group
    intro _ _ m _ hg _
    rw [pending_set, hg, count_single]; rfl
  case append =>
    -- the buffer with room: its groups and the new one
    intro _ _ m _ b hg _ _
    show (pending (PyDict.set _ _ _)).count c = _
    rw [pending_set, hg]
    simp only [Option.elim_some, List.count_append, count_single]; omega
  case full =>
    -- marking a full buffer due does not change its groups; then by induction from the next key
    intro _ _ m _ b r hg hfull ih hroom
    rw [ih (hroom.step now hg hfull), pending_set, hg]
    simp only [Option.elim_some]; omega

/-- FLUSH END TO END: the job thread finds a due buffer of the extended format under its key: it puts exactly ONE frame
    on the bus — the frame of all the buffer's groups — removes the buffer (its groups leave the waiting set, nothing
    else does), and ANY stack that accepts the destination hands its subscribers exactly those groups, byte-identical,
    in submission order, each once -/
theorem c11_flush_end_to_end (cfgR : Cfg) (sR : St) (t : Nat) (acc : Nat → Bool)
    (now counter src dst : Nat) (ks : List Nat) (s : St) (nw : Nat) (o : List Out) (buf : MpgBuf)
    (hcnt : counter < 256) (hsrc : src < 256) (hdst : dst < 256)
    (hg : s.mpg.get? (Tp22.buffer_hash_mpg Const.FF.FEFF counter src dst) = some buf)
    (hok : BufOk buf) (hgr : BufGroupsOk buf) (hn : s.mpg.keys.Nodup) (hdue : buf.deadline ≤ now)
    (hacc : dst = 255 ∨ acc dst = true) :
    let k := Tp22.buffer_hash_mpg Const.FF.FEFF counter src dst
    tickMpg now (k :: ks) s nw o =
      tickMpg now ks { s with mpg := s.mpg.erase k } nw (o ++ [.tx (feffFrame buf.cpgs src dst)]) ∧
    (∀ c, (pending (s.mpg.erase k)).count c + buf.cpgs.count c = (pending s.mpg).count c) ∧
    notify cfgR sR t acc (feffFrame buf.cpgs src dst).id (feffFrame buf.cpgs src dst).data =
      { st := sR, outs := buf.cpgs.map (fun c => Out.notify (framePrio buf.cpgs) c.cpgn src dst c.data) } := by
  intro k
  have hkey : Tp22.buffer_unhash_mpg k = (Const.FF.FEFF, counter, src, dst) := by
    rw [c11_key_separates, Nat.mod_eq_of_lt hcnt, Nat.mod_eq_of_lt hsrc, Nat.mod_eq_of_lt hdst]
    rfl
  refine ⟨tickMpg_due now k ks s nw o buf _ hg hdue ?_, pending_erase s.mpg k buf hn hg,
    rx_feff cfgR sR t acc src dst buf.cpgs hgr hsrc hdst hacc⟩
  rw [hkey]
  exact multiPgFrame_feff Const.FF.FEFF src dst buf.cpgs (by decide) (hok.1 ▸ hok.2.1)

/-- IMMEDIATE SEND END TO END: `send_pgn` without a time limit for any parameter group of 1..60 bytes on the extended
    format puts exactly one frame on the bus, keeps no state, and ANY stack accepting the destination hands its
    subscribers exactly one notification with the group's C-PGN, the sender's address and byte-identical data -/
theorem c11_immediate_end_to_end (cfg cfgR : Cfg) (s sR : St) (now t : Nat) (acc : Nat → Bool)
    (dp pf ps prio sa : Nat) (data : List Nat) (h1 : 1 ≤ data.length) (h60 : data.length ≤ 60)
    (hsa : sa < 256) (hps : ps < 256)
    (hacc : PGN.is_pdu1_format (PGN.ofFields dp pf ps) = true → (ps = 255 ∨ acc ps = true)) :
    let pgn := PGN.ofFields dp pf ps
    let dst := if PGN.is_pdu1_format pgn then ps else 255
    let cpgn := (if PGN.is_pdu1_format pgn then Mpg.cpgn_pdu1 pgn else PGN.value pgn) &&& 262143
    ∃ f, sendPgn cfg s now dp pf ps prio sa data 0 Const.FF.FEFF = ({ st := s, outs := [.tx f] }, true) ∧
      f.data.length ≤ 64 ∧
      notify cfgR sR t acc f.id f.data = { st := sR, outs := [.notify (prio &&& 7) cpgn sa dst data] } := by
  intro pgn dst cpgn
  -- `send_pgn` computes C-PGN and destination as a pair
  have hpair : (if PGN.is_pdu1_format pgn then (Mpg.cpgn_pdu1 pgn, ps) else (PGN.value pgn, Const.Addr.GLOBAL)) =
      (if PGN.is_pdu1_format pgn then Mpg.cpgn_pdu1 pgn else PGN.value pgn, dst) := by
    simp only [dst]; split <;> rfl
  have ⟨hdst, hacc'⟩ : dst < 256 ∧ (dst = 255 ∨ acc dst = true) := by
    simp only [dst]; split
    · exact ⟨hps, hacc ‹_›⟩
    · exact ⟨by decide, Or.inl rfl⟩
  obtain ⟨f, hf, _, hlen, hrx⟩ := c11_frame_end_to_end cfgR sR t acc Const.FF.FEFF sa dst
    [{ priority := prio &&& 7, tos := 2, tf := 0, cpgn := cpgn, data := data }] (by decide)
    (List.forall_mem_singleton.mpr ⟨rfl, rfl, by simp only [cpgn, and_262143]; exact Nat.mod_lt _ (by decide), h1, h60⟩)
    (by simp only [packedSize, List.map_cons, List.map_nil, List.sum_cons, List.sum_nil]; omega) hsa hdst hacc'
  refine ⟨f, ?_, hlen, ?_⟩
  · unfold sendPgn
    dsimp only
    rw [if_pos (show data.length ≤ Const.DL22.TP from h60), hpair]
    dsimp only
    simp only [show (Const.FF.FEFF == Const.FF.FBFF) = false by decide, Bool.false_and, Bool.false_eq_true, if_false,
      beq_self_eq_true, if_true]
    rw [hf]
  · rw [hrx]
    simp only [framePrio, List.map_cons, List.map_nil, List.foldl_cons, List.foldl_nil, and_7]
    rw [Nat.min_eq_left (Nat.le_of_lt_succ (Nat.mod_lt _ (by decide)))]

/-- the premises are satisfiable: three groups of 8, 20 and 24 bytes fit one frame (4·3 + 52 = 64) and are well formed -/
example :
    let cs : List Cpg := [{ priority := 6, tos := 2, tf := 0, cpgn := 65226, data := List.replicate 8 1 },
                          { priority := 3, tos := 2, tf := 0, cpgn := 61444, data := List.replicate 20 2 },
                          { priority := 7, tos := 2, tf := 0, cpgn := 256, data := List.replicate 24 3 }]
    (∀ c ∈ cs, CpgOk c) ∧ packedSize cs = 64 ∧ framePrio cs = 3 ∧ (feffFrame cs 128 255).data.length = 64 := by
  intro cs
  refine ⟨?_, by decide +kernel, by decide +kernel, by decide +kernel⟩
  intro c hc
  simp only [cs, List.mem_cons, List.not_mem_nil, or_false] at hc
  rcases hc with rfl | rfl | rfl <;> simp [CpgOk]
end J1939.Props.C11
