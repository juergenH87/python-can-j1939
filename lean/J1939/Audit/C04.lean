import J1939.Props.C04
#print axioms J1939.Props.C04.c04_foreign_claim_ignored
#print axioms J1939.Props.C04.c04_keeps_against_higher
#print axioms J1939.Props.C04.c04_same_name_ignored
#print axioms J1939.Props.C04.c04_loser
#print axioms J1939.Props.C04.c04_claim_progress_any
#print axioms J1939.Props.C04.c04_claim_progress
#print axioms J1939.Props.C04.c04_contender_value_exact
#print axioms J1939.Props.C04.c04_veto_period
#print axioms J1939.Props.C04.toMsg_claimFrame
#print axioms J1939.Props.C04.claimAsync_name
#print axioms J1939.Props.C04.pac_name
#print axioms J1939.Props.C04.claimAsync_newly_at
#print axioms J1939.Props.C04.pac_newly_at
#print axioms J1939.Props.C04.pac_loser_leaves
#print axioms J1939.Props.C04.NetInv.mono
#print axioms J1939.Props.C04.pair_preserved
#print axioms J1939.Props.C04.bcast_eq
#print axioms J1939.Props.C04.bcast_eq'
#print axioms J1939.Props.C04.step_inv
#print axioms J1939.Props.C04.run_inv
#print axioms J1939.Props.C04.fresh_inv
#print axioms J1939.Props.C04.c04_unique_at_quiescence
#print axioms J1939.Props.C04.c04_at_kept_by_step
#print axioms J1939.Props.C04.mask_claim
#print axioms J1939.Props.C04.claim_dispatch
#print axioms J1939.Props.C04.c04_claim_dispatch
