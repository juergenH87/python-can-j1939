import J1939.Props.C11
#print axioms J1939.Props.C11.c11_lut
#print axioms J1939.Props.C11.paddedData_length
#print axioms J1939.Props.C11.c11_frame_bounds
#print axioms J1939.Props.C11.Room.step
#print axioms J1939.Props.C11.c11_fill_inv
#print axioms J1939.Props.C11.c11_groups_inv
#print axioms J1939.Props.C11.c11_key_separates
#print axioms J1939.Props.C11.c11_unpack_pack
#print axioms J1939.Props.C11.c11_padding_form
#print axioms J1939.Props.C11.c11_deadline_placed
#print axioms J1939.Props.C11.c11_deadline_served
#print axioms J1939.Props.C11.framePrio_lt
#print axioms J1939.Props.C11.mpg_id_parse
#print axioms J1939.Props.C11.length_le_packed
#print axioms J1939.Props.C11.multiPgFrame_feff
#print axioms J1939.Props.C11.notify_mpg
#print axioms J1939.Props.C11.rx_feff
#print axioms J1939.Props.C11.c11_frame_end_to_end
#print axioms J1939.Props.C11.get?_cons
#print axioms J1939.Props.C11.pending_set
#print axioms J1939.Props.C11.pending_erase
#print axioms J1939.Props.C11.count_single
#print axioms J1939.Props.C11.c11_place_once
#print axioms J1939.Props.C11.c11_flush_end_to_end
#print axioms J1939.Props.C11.c11_immediate_end_to_end
