import J1939.Props.C15
#print axioms J1939.Props.C15.c15_id_parse_compose
#print axioms J1939.Props.C15.c15_id_fields
#print axioms J1939.Props.C15.c15_id_compose_parse
#print axioms J1939.Props.C15.c15_id_layout
#print axioms J1939.Props.C15.c15_pgn_value
#print axioms J1939.Props.C15.c15_pgn_fields_of_value
#print axioms J1939.Props.C15.c15_pgn_from_message_id
#print axioms J1939.Props.C15.c15_pdu_classification
#print axioms J1939.Props.C15.c15_name_value_ofValue
#print axioms J1939.Props.C15.c15_name_layout
#print axioms J1939.Props.C15.c15_name_ofValue_value
#print axioms J1939.Props.C15.c15_name_ofFields_roundtrip
#print axioms J1939.Props.C15.c15_name_bytes_le
#print axioms J1939.Props.C15.c15_name_bytes_ofBytes
#print axioms J1939.Props.C15.c15_name_ofBytes_bytes
#print axioms J1939.Props.C15.leVal_eq_fromBytesLE
#print axioms J1939.Props.C15.byte_cons_lt
#print axioms J1939.Props.C15.byte_cons_eq
#print axioms J1939.Props.C15.leVal_inj
#print axioms J1939.Props.C15.leVal_lt_iff
#print axioms J1939.Props.C15.le64_bytes
#print axioms J1939.Props.C15.c15_name_order_is_msb_first
