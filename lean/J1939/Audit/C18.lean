import J1939.Props.C18
#print axioms J1939.Props.C18.onlyDm15_nil
#print axioms J1939.Props.C18.sDm15_outs_tx
#print axioms J1939.Props.C18.sParse_outs_dm15
#print axioms J1939.Props.C18.sParse16_outs_dm15
#print axioms J1939.Props.C18.fRefuse_outs
#print axioms J1939.Props.C18.gated_dm15
#print axioms J1939.Props.C18.gated_nil
#print axioms J1939.Props.C18.gated_append
#print axioms J1939.Props.C18.fConsult_outs
#print axioms J1939.Props.C18.fListen_outs
#print axioms J1939.Props.C18.c18_key_gate
#print axioms J1939.Props.C18.c18_handlers_send_no_data
#print axioms J1939.Props.C18.c18_respond_guard
#print axioms J1939.Props.C18.errorDm15_is_built
#print axioms J1939.Props.C18.c18_error_queued
#print axioms J1939.Props.C18.c18_client_recovers
#print axioms J1939.Props.C18.c18_error_raised
#print axioms J1939.Props.C18.c18_refusal_codes
#print axioms J1939.Props.C18.c18_refusal_recovers
#print axioms J1939.Props.C18.c18_timeout
#print axioms J1939.Props.C18.c18_next_call_accepted
