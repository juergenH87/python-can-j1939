import J1939.Props.C19
#print axioms J1939.Props.C19.node_busy_eta
#print axioms J1939.Props.C19.busyAnswer_error
#print axioms J1939.Props.C19.sParse_intruder
#print axioms J1939.Props.C19.quiet_noop
#print axioms J1939.Props.C19.fListen_intruder
#print axioms J1939.Props.C19.runCb_intruder
#print axioms J1939.Props.C19.notifyLoop_intruder
#print axioms J1939.Props.C19.c19_intruder_noop
#print axioms J1939.Props.C19.c19_intruders_noop
#print axioms J1939.Props.C19.c19_unsubscribed_silent
#print axioms J1939.Props.C19.c19_intx_after_open
#print axioms J1939.Props.C19.c19_intx_closing
#print axioms J1939.Props.C19.c19_intx_read_long
#print axioms J1939.Props.C19.c19_intx_write_wait
