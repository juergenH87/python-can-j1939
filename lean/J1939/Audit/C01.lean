import J1939.Props.C01
#print axioms J1939.Props.C01.c01_short_frame
#print axioms J1939.Props.C01.c01_single_frame_rx
#print axioms J1939.Props.C01.c01_segments_roundtrip
#print axioms J1939.Props.C01.c01_originator_frames
#print axioms J1939.Props.C01.c01_originator_announce
#print axioms J1939.Props.C01.c01_responder_delivers
#print axioms J1939.Props.C01.c01_ack_reported
#print axioms J1939.Props.C01.c01_tp_dispatch
#print axioms J1939.Props.C01.c01_bam_originator_frames
#print axioms J1939.Props.C01.decode_bam
#print axioms J1939.Props.C01.rx_bam
#print axioms J1939.Props.C01.rxAll_dt
#print axioms J1939.Props.C01.c01_bam_end_to_end
#print axioms J1939.Props.C01.c01_rtscts_round
#print axioms J1939.Props.C01.c01_rtscts_end_to_end
#print axioms J1939.Props.C01.hash21_arith
#print axioms J1939.Props.C01.c01_session_key_injective
