import J1939.Props.C17
#print axioms J1939.Props.C17.toBytesLE_lt
#print axioms J1939.Props.C17.valuesToBytes_length
#print axioms J1939.Props.C17.bytesToValues_valuesToBytes
#print axioms J1939.Props.C17.c17_values_bytes
#print axioms J1939.Props.C17.c17_values_signed
#print axioms J1939.Props.C17.cfg_sDm15
#print axioms J1939.Props.C17.cfg_ite
#print axioms J1939.Props.C17.cfg_server
#print axioms J1939.Props.C17.cfg_sParseDm14
#print axioms J1939.Props.C17.cfg_sParseDm16
#print axioms J1939.Props.C17.cfg_qWaitForData
#print axioms J1939.Props.C17.cfg_qParseDm15
#print axioms J1939.Props.C17.cfg_qParseDm16
#print axioms J1939.Props.C17.cfg_sReset
#print axioms J1939.Props.C17.cfg_fRefuse
#print axioms J1939.Props.C17.cfg_fConsult
#print axioms J1939.Props.C17.cfg_fListen
#print axioms J1939.Props.C17.cfg_runCb
#print axioms J1939.Props.C17.cfg_notifyLoop
#print axioms J1939.Props.C17.cfg_deliver
#print axioms J1939.Props.C17.cfg_clientResume
#print axioms J1939.Props.C17.cfg_readBegin
#print axioms J1939.Props.C17.cfg_read
#print axioms J1939.Props.C17.cfg_writeBegin
#print axioms J1939.Props.C17.cfg_write
#print axioms J1939.Props.C17.cfg_respondResume
#print axioms J1939.Props.C17.cfg_sDm16
#print axioms J1939.Props.C17.cfg_sWaitForData
#print axioms J1939.Props.C17.cfg_respond
#print axioms J1939.Props.C17.qDm14_open
#print axioms J1939.Props.C17.open_decode
#print axioms J1939.Props.C17.open_count
#print axioms J1939.Props.C17.server_accepts
#print axioms J1939.Props.C17.proceed_decode
#print axioms J1939.Props.C17.opc_decode
#print axioms J1939.Props.C17.seed_decode
#print axioms J1939.Props.C17.cliDm16_payload
#print axioms J1939.Props.C17.srvDm16_long
#print axioms J1939.Props.C17.srvDm16_payload
#print axioms J1939.Props.C17.srvDm16_length
#print axioms J1939.Props.C17.server_sends_seed
#print axioms J1939.Props.C17.server_accepts_key
#print axioms J1939.Props.C17.server_read_short
#print axioms J1939.Props.C17.server_read_long
#print axioms J1939.Props.C17.server_read_ack
#print axioms J1939.Props.C17.server_write_begin
#print axioms J1939.Props.C17.server_write_data
#print axioms J1939.Props.C17.server_closing
#print axioms J1939.Props.C17.open_plain
#print axioms J1939.Props.C17.open_key
#print axioms J1939.Props.C17.serve_read_short
#print axioms J1939.Props.C17.serve_read_long
#print axioms J1939.Props.C17.serve_write
#print axioms J1939.Props.C17.close_clean
#print axioms J1939.Props.C17.client_read_begin
#print axioms J1939.Props.C17.client_answers_seed
#print axioms J1939.Props.C17.client_read_proceed
#print axioms J1939.Props.C17.client_write_proceed
#print axioms J1939.Props.C17.client_read_data
#print axioms J1939.Props.C17.client_complete
#print axioms J1939.Props.C17.client_read_tail
#print axioms J1939.Props.C17.client_read
#print axioms J1939.Props.C17.client_read_sk
#print axioms J1939.Props.C17.client_write_begin
#print axioms J1939.Props.C17.client_write_tail
#print axioms J1939.Props.C17.client_write
#print axioms J1939.Props.C17.client_write_sk
#print axioms J1939.Props.C17.c17_read_short
#print axioms J1939.Props.C17.c17_read_long
#print axioms J1939.Props.C17.c17_write
#print axioms J1939.Props.C17.c17_seedkey_handshake
#print axioms J1939.Props.C17.c17_read_short_seedkey
#print axioms J1939.Props.C17.c17_write_seedkey
#print axioms J1939.Props.C17.c17_read_long_seedkey
#print axioms J1939.Props.C17.cfg_run
#print axioms J1939.Props.C17.tx_preserves_ready
#print axioms J1939.Props.C17.c17_back_to_back
