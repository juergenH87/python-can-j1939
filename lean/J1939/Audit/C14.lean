import J1939.Props.C14
#print axioms J1939.Props.C14.request_pgn_data
#print axioms J1939.Props.C14.c14_request_codec
#print axioms J1939.Props.C14.request_id
#print axioms J1939.Props.C14.c14_request_frame
#print axioms J1939.Props.C14.c14_dispatch
#print axioms J1939.Props.C14.c14_dll_passes_request
#print axioms J1939.Props.C14.c14_request_end_to_end
