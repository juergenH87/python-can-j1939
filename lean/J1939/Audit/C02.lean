import J1939.Props.C02
#print axioms J1939.Props.C02.c02_refusal_pure
#print axioms J1939.Props.C02.poolGet_none_iff
#print axioms J1939.Props.C02.c02_accept_takes_one
#print axioms J1939.Props.C02.c02_notify_keeps_pools
#print axioms J1939.Props.C02.c02_capacity
#print axioms J1939.Props.C02.c02_chunks_get
#print axioms J1939.Props.C02.c02_chunks_concat
#print axioms J1939.Props.C02.pyIndex_chunk
#print axioms J1939.Props.C02.c02_built_frame_is_segframe
#print axioms J1939.Props.C02.dtDatas_segframes
#print axioms J1939.Props.C02.c02_reception_exact
#print axioms J1939.Props.C02.tickSndOne_bam
#print axioms J1939.Props.C02.c02_bam_originator_frames
#print axioms J1939.Props.C02.cm_frame
#print axioms J1939.Props.C02.eoms_frame
#print axioms J1939.Props.C02.bam_frame
#print axioms J1939.Props.C02.txFrames_map
#print axioms J1939.Props.C02.txFrames_append
#print axioms J1939.Props.C02.txFrames_tx_wake
#print axioms J1939.Props.C02.c02_bam_end_to_end
#print axioms J1939.Props.C02.sendWindow_step
#print axioms J1939.Props.C02.sendWindow_all
#print axioms J1939.Props.C02.sendWindow_one
#print axioms J1939.Props.C02.tickSndOne_window
#print axioms J1939.Props.C02.tickSndOne_rest
#print axioms J1939.Props.C02.tickSndOne_sending
#print axioms J1939.Props.C02.tickSndOne_partial
#print axioms J1939.Props.C02.dt22_seg
#print axioms J1939.Props.C02.dt22_mid
#print axioms J1939.Props.C02.dt22_window_end
#print axioms J1939.Props.C02.dt22_last
#print axioms J1939.Props.C02.feed_segs
#print axioms J1939.Props.C02.feed_own
#print axioms J1939.Props.C02.feed_window
#print axioms J1939.Props.C02.feed_last
#print axioms J1939.Props.C02.eoms_accepted
#print axioms J1939.Props.C02.cts_accepted
#print axioms J1939.Props.C02.eoma_accepted
#print axioms J1939.Props.C02.rts_accepted
#print axioms J1939.Props.C02.fd_dispatch
#print axioms J1939.Props.C02.rxAll_append
#print axioms J1939.Props.C02.rxAll_cm
#print axioms J1939.Props.C02.rxAll_dt
#print axioms J1939.Props.C02.round_eq
#print axioms J1939.Props.C02.rx_segs
#print axioms J1939.Props.C02.rx_last
#print axioms J1939.Props.C02.c02_rtscts_round
#print axioms J1939.Props.C02.round_final
#print axioms J1939.Props.C02.run_delivers
#print axioms J1939.Props.C02.c02_rtscts_end_to_end
#print axioms J1939.Props.C02.hash22_arith
#print axioms J1939.Props.C02.c02_session_key_injective
