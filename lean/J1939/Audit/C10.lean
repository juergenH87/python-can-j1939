import J1939.Props.C10
#print axioms J1939.Props.C10.c10_refusal_iff_busy
#print axioms J1939.Props.C10.c10_accept_occupies
#print axioms J1939.Props.C10.c10_short_never_refused
#print axioms J1939.Props.C10.c10_dt_keeps_snd
#print axioms J1939.Props.C10.c10_rts_bam_keep_snd
#print axioms J1939.Props.C10.c10_tickRcv_keeps_snd
#print axioms J1939.Props.C10.c10_abort_releases
#print axioms J1939.Props.C10.sendPgn_get?_other
#print axioms J1939.Props.C10.c10_send_keeps_other_pairs
#print axioms J1939.Props.C10.c10_frames_keep_other_pairs
#print axioms J1939.Props.C10.c10_22_deleted_returns_number
#print axioms J1939.Props.C10.c10_22_cons_init
#print axioms J1939.Props.C10.c10_22_conservation
#print axioms J1939.Props.C10.c10_22_used_iff_held
#print axioms J1939.Props.C10.c10_22_idle_means_full
#print axioms J1939.Props.C10.cm_session_lt
#print axioms J1939.Props.C10.dt_session_lt
#print axioms J1939.Props.C10.c10_22_frames_keep_other_sessions
#print axioms J1939.Props.C10.c10_22_send_keeps_rcv
#print axioms J1939.Props.C10.sendPgn22_get?_other
#print axioms J1939.Props.C10.c10_22_send_keeps_other_sources
