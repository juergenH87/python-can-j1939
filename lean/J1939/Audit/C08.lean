import J1939.Props.C08
#print axioms J1939.Props.C08.c08_rx_keeps_snd_keys
#print axioms J1939.Props.C08.nodup_cut
#print axioms J1939.Props.C08.c08_pre_pass_ok
#print axioms J1939.Props.C08.c08_pass_keeps_live_sessions
#print axioms J1939.Props.C08.c08_tickSnd_keeps_rcv
#print axioms J1939.Props.C08.c08_history_wf
#print axioms J1939.Props.C08.c08_thread_never_dies
#print axioms J1939.Props.C08.c08_rx_change_wakes
#print axioms J1939.Props.C08.c08_22_rx_keeps_snd_keys
#print axioms J1939.Props.C08.afterRcv_ok
#print axioms J1939.Props.C08.c08_22_pre_pass_ok
#print axioms J1939.Props.C08.c08_wait_timeout_positive
#print axioms J1939.Props.C08.c08_no_wait_when_due
