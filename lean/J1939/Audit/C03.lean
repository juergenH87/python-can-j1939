import J1939.Props.C03
#print axioms J1939.Props.C03.c03_cm_id
#print axioms J1939.Props.C03.c03_cm_data
#print axioms J1939.Props.C03.c03_cm_ref
#print axioms J1939.Props.C03.c03_dt_layout
#print axioms J1939.Props.C03.c03_decode_rts
#print axioms J1939.Props.C03.c03_decode_cts
#print axioms J1939.Props.C03.c03_responder_decodes
#print axioms J1939.Props.C03.c03_timing_envelope
#print axioms J1939.Props.C03.c03_22_cm_data
#print axioms J1939.Props.C03.c03_22_ids
#print axioms J1939.Props.C03.c03_22_builders
#print axioms J1939.Props.C03.c03_22_decode_cm
#print axioms J1939.Props.C03.lut_below_legal
#print axioms J1939.Props.C03.lut_minimal
#print axioms J1939.Props.C03.c03_22_dt_layout
#print axioms J1939.Props.C03.c03_22_decode_dt
